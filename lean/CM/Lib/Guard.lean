import CM.Lib.Skel
/-
Verified *guarded state* checker (DESIGN 2.1-L4 c): every access to a piece of shared state
(a named map, a ring, a counter …) lies inside a critical section of its mutex — on every
path, through branches, loops, closures, deferred unlocks, early returns and panics.

`P` classifies action names (generated from source and normalised by the translator):
`lock`, `unlock`, `access` (reads/writes/deletes of the guarded state and calls of
"unsynced" helpers that expect the mutex to be held). The checker propagates the SET of
possible mutex states of the current goroutine — free, held, held with a deferred unlock
registered in the current function frame — and accepts an access only if the mutex is
certainly held. Soundness is proved against an instrumented big-step semantics that records
whether an access (or a lock/unlock in the wrong state) ever happened outside the discipline.
-/
namespace CM.Guard
open CM.Skel

structure Names where
  lock   : String → Bool
  unlock : String → Bool
  access : String → Bool

/-- mutex state of the executing goroutine -/
inductive M
  | free
  | held      -- held, no deferred unlock registered in this frame
  | heldD     -- held, and this frame has registered `defer unlock`
  deriving DecidableEq, Repr

def M.isHeld : M → Bool
  | .free => false
  | _ => true

/-- leaving a function frame runs its deferred unlock -/
def M.leave : M → M
  | .heldD => .free
  | m => m

/-- a set of possible mutex states -/
structure HSet where
  f : Bool   -- `free` is possible
  t : Bool   -- `held` is possible
  d : Bool   -- `heldD` is possible
  deriving DecidableEq, Repr

def HSet.empty : HSet := ⟨false, false, false⟩
def HSet.only : M → HSet
  | .free => ⟨true, false, false⟩
  | .held => ⟨false, true, false⟩
  | .heldD => ⟨false, false, true⟩
def HSet.mem (m : M) (S : HSet) : Bool :=
  match m with
  | .free => S.f
  | .held => S.t
  | .heldD => S.d
def HSet.union (A B : HSet) : HSet := ⟨A.f || B.f, A.t || B.t, A.d || B.d⟩
def HSet.sub (A B : HSet) : Bool := (!A.f || B.f) && (!A.t || B.t) && (!A.d || B.d)
def HSet.leave (S : HSet) : HSet := ⟨S.f || S.d, S.t, false⟩
def HSet.onlyFree (S : HSet) : Bool := !S.t && !S.d
def HSet.allHeld (S : HSet) : Bool := !S.f

section
variable {S A B : HSet} {m : M}

theorem mem_union : (A.union B).mem m = (A.mem m || B.mem m) := by
  cases m <;> rfl

theorem mem_of_sub (hs : A.sub B = true) (hm : A.mem m = true) : B.mem m = true := by
  simp only [HSet.sub, Bool.and_eq_true] at hs
  cases m
  · simpa [HSet.mem, show A.f = true from hm] using hs.1.1
  · simpa [HSet.mem, show A.t = true from hm] using hs.1.2
  · simpa [HSet.mem, show A.d = true from hm] using hs.2

theorem sub_refl : A.sub A = true := by simp [HSet.sub]

theorem sub_union_left : A.sub (A.union B) = true := by
  simp [HSet.sub, HSet.union, ← Bool.or_assoc]

theorem sub_union_right : B.sub (A.union B) = true := by
  simp [HSet.sub, HSet.union, Bool.or_left_comm]

theorem mem_leave (hm : S.mem m = true) : S.leave.mem m.leave = true := by
  cases m <;> simp_all [HSet.mem, HSet.leave, M.leave]

theorem only_mem_self : (HSet.only m).mem m = true := by cases m <;> rfl

-- the hypotheses of the next three are the tests `chk` makes at `lock`, at `unlock` and
-- `defer unlock`, and at an access
theorem free_of_mem (h : ¬(S.t || S.d) = true) (hm : S.mem m = true) : m = .free := by
  cases m <;> simp_all [HSet.mem]

theorem held_of_mem (h : ¬(S.f || S.d) = true) (hm : S.mem m = true) : m = .held := by
  cases m <;> simp_all [HSet.mem]

theorem isHeld_of_mem (h : ¬S.f = true) (hm : S.mem m = true) : m.isHeld = true := by
  cases m <;> simp_all [HSet.mem, M.isHeld]

theorem onlyFree_mem (ho : S.onlyFree = true) (hm : S.mem m = true) : m = .free :=
  free_of_mem (by simpa [HSet.onlyFree] using ho) hm

theorem allHeld_mem (ho : S.allHeld = true) (hm : S.mem m = true) : m.isHeld = true :=
  isHeld_of_mem (by simpa [HSet.allHeld] using ho) hm

end

/-- does the (deferred) block unlock as its first action? (`Skel.releases` for this checker's names) -/
def unlocksFirst (P : Names) : Sk → Bool
  | .act n => P.unlock n
  | .seq a _ => unlocksFirst P a
  | .fn a => unlocksFirst P a
  | _ => false

/-- nothing in the block, at any depth, locks, unlocks or accesses (`ret`, `pnc` and `skip` are inert) -/
def inert (P : Names) : Sk → Bool
  | .act n => !P.lock n && !P.unlock n && !P.access n
  | .seq a b => inert P a && inert P b
  | .br _ a b => inert P a && inert P b
  | .loop a => inert P a
  | .dfr a => inert P a
  | .spawn a => inert P a
  | .fn a => inert P a
  | .acq f => inert P f
  | _ => true

/-- deferred blocks of the current function frame that are neither an unlock nor inert: they
are critical sections of their own, run when the frame is left (checked by `fnOK`) -/
def deferredBlocks (P : Names) : Sk → List Sk
  | .dfr a => if unlocksFirst P a || inert P a then [] else [a]
  | .seq a b => deferredBlocks P a ++ deferredBlocks P b
  | .br _ a b => deferredBlocks P a ++ deferredBlocks P b
  | .loop a => deferredBlocks P a
  | .acq f => deferredBlocks P f
  | _ => []

/-- instrumented semantics: mutex state before/after, outcome, and `viol` = something
happened outside the discipline: an access without the mutex, locking a mutex this goroutine
already holds, unlocking a free mutex or one whose unlock is already deferred, deferring an
unlock without holding. -/
inductive Exec (P : Names) : Sk → M → Out → M → Bool → Prop
  | lock {n m} : P.lock n = true → Exec P (.act n) m .normal .held (decide (m ≠ .free))
  | unlock {n m} : P.unlock n = true → P.lock n = false → Exec P (.act n) m .normal .free (decide (m ≠ .held))
  | access {n m} : P.access n = true → P.lock n = false → P.unlock n = false → Exec P (.act n) m .normal m (!m.isHeld)
  | accessPanic {n m} : P.access n = true → P.lock n = false → P.unlock n = false → Exec P (.act n) m .panicked m (!m.isHeld)
  | other {n m} : P.access n = false → P.lock n = false → P.unlock n = false → Exec P (.act n) m .normal m false
  | otherPanic {n m} : P.access n = false → P.lock n = false → P.unlock n = false → Exec P (.act n) m .panicked m false
  | ret {m} : Exec P .ret m .returned m false
  | pnc {m} : Exec P .pnc m .panicked m false
  | skip {m} : Exec P .skip m .normal m false
  | seqStop {a b m o m' v} : o ≠ .normal → Exec P a m o m' v → Exec P (.seq a b) m o m' v
  | seqGo {a b m m1 v1 o m2 v2} : Exec P a m .normal m1 v1 → Exec P b m1 o m2 v2 → Exec P (.seq a b) m o m2 (v1 || v2)
  | brL {c a b m o m' v} : Exec P a m o m' v → Exec P (.br c a b) m o m' v
  | brR {c a b m o m' v} : Exec P b m o m' v → Exec P (.br c a b) m o m' v
  | loopDone {a m} : Exec P (.loop a) m .normal m false
  | loopStop {a m o m' v} : o ≠ .normal → Exec P a m o m' v → Exec P (.loop a) m o m' v
  | loopGo {a m m1 v1 o m2 v2} : Exec P a m .normal m1 v1 → Exec P (.loop a) m1 o m2 v2 → Exec P (.loop a) m o m2 (v1 || v2)
  | dfrUnlock {a m} : unlocksFirst P a = true → Exec P (.dfr a) m .normal .heldD (decide (m ≠ .held))
  | dfrOther {a m} : unlocksFirst P a = false → Exec P (.dfr a) m .normal m false
  | spawn {a m} : Exec P (.spawn a) m .normal m false
  | fnNormal {a m m' v} : Exec P a m .normal m' v → Exec P (.fn a) m .normal m'.leave v
  | fnReturned {a m m' v} : Exec P a m .returned m' v → Exec P (.fn a) m .normal m'.leave v
  | fnPanicked {a m m' v} : Exec P a m .panicked m' v → Exec P (.fn a) m .panicked m'.leave v
  | acqOk {f m} : Exec P (.acq f) m .normal m false
  | acqFail {f m o m' v} : Exec P f m o m' v → Exec P (.acq f) m o m' v

structure Res where
  norm : HSet     -- possible mutex states after normal completion
  ret  : HSet     -- … at a `return` leaving the current function literal
  pan  : HSet     -- … at a panic
  deriving DecidableEq, Repr

/-- frame exit of a function literal that is invoked in place -/
def leaveFrame (r : Res) : Res := ⟨(r.norm.union r.ret).leave, .empty, r.pan.leave⟩

/-- the checker: `none` = rejected -/
def chk (P : Names) : Sk → HSet → Option Res
  | .act n, S =>
    if P.lock n then (if S.t || S.d then none else some ⟨if S.f then .only .held else .empty, .empty, .empty⟩)
    else if P.unlock n then (if S.f || S.d then none else some ⟨if S.t then .only .free else .empty, .empty, .empty⟩)
    else if P.access n then (if S.f then none else some ⟨S, .empty, S⟩)
    else some ⟨S, .empty, S⟩
  | .ret, S => some ⟨.empty, S, .empty⟩
  | .pnc, S => some ⟨.empty, .empty, S⟩
  | .skip, S => some ⟨S, .empty, .empty⟩
  | .seq a b, S =>
    match chk P a S with
    | none => none
    | some r1 =>
      match chk P b r1.norm with
      | none => none
      | some r2 => some ⟨r2.norm, r1.ret.union r2.ret, r1.pan.union r2.pan⟩
  | .br _ a b, S =>
    match chk P a S, chk P b S with
    | some r1, some r2 => some ⟨r1.norm.union r2.norm, r1.ret.union r2.ret, r1.pan.union r2.pan⟩
    | _, _ => none
  | .loop a, S =>
    -- S must be an invariant of the body
    match chk P a S with
    | none => none
    | some r => if r.norm.sub S then some ⟨S, r.ret, r.pan⟩ else none
  | .dfr a, S =>
    if unlocksFirst P a then (if S.f || S.d then none else some ⟨if S.t then .only .heldD else .empty, .empty, .empty⟩)
    else some ⟨S, .empty, .empty⟩      -- registering is a no-op; what runs later is `fnOK`'s business
  | .spawn a, S =>
    -- a new goroutine starts without the mutex; whatever it does is checked from there
    match chk P a (.only .free) with
    | none => none
    | some _ => some ⟨S, .empty, .empty⟩
  | .fn a, S =>
    -- a nested function literal may defer an unlock, but no critical sections of its own
    if (deferredBlocks P a).isEmpty then
      match chk P a S with
      | none => none
      | some r => some (leaveFrame r)
    else none
  | .acq f, S =>
    match chk P f S with
    | none => none
    | some r => some ⟨S.union r.norm, r.ret, r.pan⟩

section
variable {P : Names} {S : HSet} {r : Res}

theorem chk_seq {a b : Sk} (h : chk P (.seq a b) S = some r) :
    ∃ r1 r2, chk P a S = some r1 ∧ chk P b r1.norm = some r2 ∧
      r = ⟨r2.norm, r1.ret.union r2.ret, r1.pan.union r2.pan⟩ := by
  unfold chk at h
  split at h
  · cases h
  · split at h
    · cases h
    · cases h; exact ⟨_, _, ‹_›, ‹_›, rfl⟩

theorem chk_br {c : String} {a b : Sk} (h : chk P (.br c a b) S = some r) :
    ∃ r1 r2, chk P a S = some r1 ∧ chk P b S = some r2 ∧
      r = ⟨r1.norm.union r2.norm, r1.ret.union r2.ret, r1.pan.union r2.pan⟩ := by
  unfold chk at h
  split at h
  · cases h; exact ⟨_, _, ‹_›, ‹_›, rfl⟩
  · cases h

theorem chk_loop {a : Sk} (h : chk P (.loop a) S = some r) :
    ∃ r1, chk P a S = some r1 ∧ r1.norm.sub S = true ∧ r = ⟨S, r1.ret, r1.pan⟩ := by
  unfold chk at h
  split at h
  · cases h
  · obtain ⟨hs, h⟩ := Option.ite_none_right_eq_some.1 h
    cases h; exact ⟨_, ‹_›, hs, rfl⟩

theorem chk_fn {a : Sk} (h : chk P (.fn a) S = some r) :
    ∃ r1, chk P a S = some r1 ∧ r = leaveFrame r1 := by
  obtain ⟨_, h⟩ := Option.ite_none_right_eq_some.1 h
  split at h
  · cases h
  · cases h; exact ⟨_, ‹_›, rfl⟩

theorem chk_acq {f : Sk} (h : chk P (.acq f) S = some r) :
    ∃ r1, chk P f S = some r1 ∧ r = ⟨S.union r1.norm, r1.ret, r1.pan⟩ := by
  unfold chk at h
  split at h
  · cases h
  · cases h; exact ⟨_, ‹_›, rfl⟩

def Res.ends (r : Res) : Out → HSet
  | .normal => r.norm
  | .returned => r.ret
  | .panicked => r.pan

/-- The inclusion of `norm` is asked for only when the execution at hand completes normally: the
first part of a sequence, or one round of a loop, that does so is not the end of the whole. -/
theorem mem_ends_mono {r r' : Res} {o : Out} {m : M} (h : (r.ends o).mem m = true)
    (hn : o = .normal → r.norm.sub r'.norm = true) (hr : r.ret.sub r'.ret = true)
    (hp : r.pan.sub r'.pan = true) : (r'.ends o).mem m = true := by
  cases o
  · exact mem_of_sub (hn rfl) h
  · exact mem_of_sub hr h
  · exact mem_of_sub hp h

theorem mem_leaveFrame {o : Out} {m : M} (h : (r.ends o).mem m = true) (ho : o ≠ .panicked) :
    (leaveFrame r).norm.mem m.leave = true := by
  cases o
  · exact mem_leave (mem_of_sub sub_union_left h)
  · exact mem_leave (mem_of_sub sub_union_right h)
  · exact absurd rfl ho

/-- The checker's rule for the three steps that take the mutex from a state `a` to a state `b` (lock,
unlock, defer unlock): `c` is its test that `S` holds a state other than `a`, and the semantics counts
the step from any other state as a violation. -/
theorem chk_move {m a b : M} {c : Bool}
    (hc : (if c then none else some ⟨if S.mem a then .only b else .empty, .empty, .empty⟩) = some r)
    (ha : ¬c = true → m = a) (hm : S.mem m = true) :
    decide (m ≠ a) = false ∧ r.norm.mem b = true := by
  obtain ⟨hS, hc⟩ := Option.ite_none_left_eq_some.1 hc
  cases hc
  cases ha hS
  exact ⟨decide_eq_false (fun h => h rfl), by rw [if_pos hm]; exact only_mem_self⟩

/-- Soundness: if the checker accepts a block from a set `S` of possible mutex states, then
every execution starting in a state of `S` stays inside the discipline and ends in a state that
the result allows for its outcome: `r.ends o` is `norm`, `ret` or `pan` according to `o`. -/
theorem chk_sound_ends {s : Sk} {m : M} {o : Out} {m' : M} {v : Bool}
    (he : Exec P s m o m' v) (hc : chk P s S = some r) (hm : S.mem m = true) :
    v = false ∧ (r.ends o).mem m' = true := by
  induction he generalizing S r with
  | lock hl =>
    unfold chk at hc
    rw [if_pos hl] at hc
    exact chk_move hc (free_of_mem · hm) hm
  | unlock hu hl =>
    unfold chk at hc
    rw [if_neg (Bool.eq_false_iff.1 hl), if_pos hu] at hc
    exact chk_move hc (held_of_mem · hm) hm
  | access ha hl hu | accessPanic ha hl hu =>
    unfold chk at hc
    simp only [hl, hu, ha, if_true, Bool.false_eq_true, if_false, Option.ite_none_left_eq_some] at hc
    obtain ⟨hS, hc⟩ := hc
    cases hc
    exact ⟨by rw [isHeld_of_mem hS hm]; rfl, hm⟩
  | other ha hl hu | otherPanic ha hl hu =>
    unfold chk at hc
    simp only [hl, hu, ha, Bool.false_eq_true, if_false] at hc
    cases hc
    exact ⟨rfl, hm⟩
  | ret | pnc | skip => cases hc; exact ⟨rfl, hm⟩
  | seqStop ho _ ih =>
    obtain ⟨r1, r2, h1, _, rfl⟩ := chk_seq hc
    obtain ⟨hv, h⟩ := ih h1 hm
    exact ⟨hv, mem_ends_mono h (fun e => absurd e ho) sub_union_left sub_union_left⟩
  | seqGo _ _ ih1 ih2 =>
    obtain ⟨r1, r2, h1, h2, rfl⟩ := chk_seq hc
    obtain ⟨rfl, hm1⟩ := ih1 h1 hm
    obtain ⟨hv, h⟩ := ih2 h2 hm1
    exact ⟨hv, mem_ends_mono h (fun _ => sub_refl) sub_union_right sub_union_right⟩
  | brL _ ih =>
    obtain ⟨r1, r2, h1, _, rfl⟩ := chk_br hc
    obtain ⟨hv, h⟩ := ih h1 hm
    exact ⟨hv, mem_ends_mono h (fun _ => sub_union_left) sub_union_left sub_union_left⟩
  | brR _ ih =>
    obtain ⟨r1, r2, _, h2, rfl⟩ := chk_br hc
    obtain ⟨hv, h⟩ := ih h2 hm
    exact ⟨hv, mem_ends_mono h (fun _ => sub_union_right) sub_union_right sub_union_right⟩
  | loopDone =>
    obtain ⟨r1, _, _, rfl⟩ := chk_loop hc
    exact ⟨rfl, hm⟩
  | loopStop ho _ ih =>
    obtain ⟨r1, h1, _, rfl⟩ := chk_loop hc
    obtain ⟨hv, h⟩ := ih h1 hm
    exact ⟨hv, mem_ends_mono h (fun e => absurd e ho) sub_refl sub_refl⟩
  | loopGo _ _ ih1 ih2 =>
    -- `S` is an invariant of the body, so the remaining rounds start in `S` again
    obtain ⟨r1, h1, hsub, _⟩ := chk_loop hc
    obtain ⟨rfl, hm1⟩ := ih1 h1 hm
    exact ih2 hc (mem_of_sub hsub hm1)
  | dfrUnlock hu =>
    unfold chk at hc
    rw [if_pos hu] at hc
    exact chk_move hc (held_of_mem · hm) hm
  | dfrOther hu =>
    unfold chk at hc
    simp only [hu, Bool.false_eq_true, if_false] at hc
    cases hc
    exact ⟨rfl, hm⟩
  | spawn =>
    -- that the spawned block is accepted from "free" is not needed: `Exec` does not run it, so the theorem
    -- speaks of the spawning goroutine only, and what the new one does is judged by the checker alone
    unfold chk at hc
    split at hc
    · cases hc
    · cases hc; exact ⟨rfl, hm⟩
  | fnNormal _ ih | fnReturned _ ih =>
    obtain ⟨r1, h1, rfl⟩ := chk_fn hc
    obtain ⟨hv, h⟩ := ih h1 hm
    exact ⟨hv, mem_leaveFrame h nofun⟩
  | fnPanicked _ ih =>
    obtain ⟨r1, h1, rfl⟩ := chk_fn hc
    obtain ⟨hv, h⟩ := ih h1 hm
    exact ⟨hv, mem_leave h⟩
  | acqOk =>
    obtain ⟨r1, _, rfl⟩ := chk_acq hc
    exact ⟨rfl, mem_of_sub sub_union_left hm⟩
  | acqFail _ ih =>
    obtain ⟨r1, h1, rfl⟩ := chk_acq hc
    obtain ⟨hv, h⟩ := ih h1 hm
    exact ⟨hv, mem_ends_mono h (fun _ => sub_union_right) sub_refl sub_refl⟩

end

/-- `chk_sound_ends` with `Res.ends` spelt out as three implications. -/
theorem chk_sound {P : Names} {s : Sk} {m : M} {o : Out} {m' : M} {v : Bool}
    (he : Exec P s m o m' v) :
    ∀ {S : HSet} {r : Res}, chk P s S = some r → S.mem m = true →
      v = false ∧ (o = .normal → r.norm.mem m' = true) ∧ (o = .returned → r.ret.mem m' = true) ∧
        (o = .panicked → r.pan.mem m' = true) := by
  intro S r hc hm
  obtain ⟨hv, h⟩ := chk_sound_ends he hc hm
  exact ⟨hv, fun e => by subst e; exact h, fun e => by subst e; exact h, fun e => by subst e; exact h⟩

/-- a deferred block that is a critical section of its own: accepted entered "free" and,
unless it panics, left "free" -/
def balanced (P : Names) (a : Sk) : Bool :=
  match chk P (.fn a) (.only .free) with
  | some r => r.norm.onlyFree
  | none => false

/-- does the frame register a deferred unlock? (Like `deferredBlocks` it does not look into nested
function literals or spawned blocks, which have frames of their own.) -/
def hasDeferUnlock (P : Names) : Sk → Bool
  | .dfr a => unlocksFirst P a
  | .seq a b => hasDeferUnlock P a || hasDeferUnlock P b
  | .br _ a b => hasDeferUnlock P a || hasDeferUnlock P b
  | .loop a => hasDeferUnlock P a
  | .acq f => hasDeferUnlock P f
  | _ => false

/-- Function-level acceptance: the body is accepted entered with the mutex free; unless it
panics it is left (after its deferred unlock, if any) with the mutex free; its deferred
critical sections are balanced; and it does not mix a deferred unlock with deferred critical
sections (Go runs deferred calls last-in-first-out; the mix is rejected rather than modelled). -/
def fnOK (P : Names) (body : Sk) : Bool :=
  match chk P body (.only .free) with
  | none => false
  | some r =>
    (leaveFrame r).norm.onlyFree &&
    (deferredBlocks P body).all (balanced P) &&
    !(hasDeferUnlock P body && !(deferredBlocks P body).isEmpty)

/-- run some of the frame's deferred blocks, one after the other; a panicking block ends the run -/
inductive RunDefs (P : Names) : List Sk → M → M → Bool → Prop
  | nil {m} : RunDefs P [] m m false
  | skip {d ds m m' v} : RunDefs P ds m m' v → RunDefs P (d :: ds) m m' v
  | run {d ds m m1 v1 m2 v2} : Exec P (.fn d) m .normal m1 v1 → RunDefs P ds m1 m2 v2 →
      RunDefs P (d :: ds) m m2 (v1 || v2)
  | panic {d ds m m1 v1} : Exec P (.fn d) m .panicked m1 v1 → RunDefs P (d :: ds) m m1 v1

theorem runDefs_sound {P : Names} {ds : List Sk} (hb : ds.all (balanced P) = true)
    {m' : M} {v : Bool} (hr : RunDefs P ds .free m' v) : v = false := by
  induction ds generalizing m' v with
  | nil => cases hr; rfl
  | cons d ds ih =>
    rw [List.all_cons, Bool.and_eq_true, balanced] at hb
    obtain ⟨hd, hds⟩ := hb
    split at hd
    · rename_i r hc
      cases hr with
      | skip hr => exact ih hds hr
      | run he hr =>
        obtain ⟨rfl, hm1⟩ := chk_sound_ends he hc only_mem_self
        cases onlyFree_mem hd hm1
        exact ih hds hr
      | panic he => exact (chk_sound_ends he hc only_mem_self).1
    · cases hd

/-- **Soundness, function level.** If `fnOK` accepts a function body, then in every execution
— the body entered with the mutex free and left by normal completion, return, or a panic at
any call; then (unless it panicked) its deferred unlock and any of its deferred critical
sections run — nothing happens outside the discipline: no access to the guarded state
without the mutex, no self-deadlocking lock, no unlock of a mutex that is not held. -/
theorem fnOK_sound {P : Names} {body : Sk} (hok : fnOK P body = true)
    {o : Out} {m1 : M} {v1 : Bool} (he : Exec P body .free o m1 v1) :
    v1 = false ∧
    (o ≠ .panicked → m1.leave = .free ∧
      ∀ {sub : List Sk}, sub.Sublist (deferredBlocks P body) →
        ∀ {m2 : M} {v2 : Bool}, RunDefs P sub m1.leave m2 v2 → v2 = false) := by
  rw [fnOK] at hok
  split at hok
  · cases hok
  · rename_i r hc
    simp only [Bool.and_eq_true] at hok
    -- the no-mix conjunct of `fnOK` is not needed here: it is what makes the order of `RunDefs … m1.leave`
    -- (the deferred unlock first, then the deferred blocks) the order in which Go runs them
    obtain ⟨⟨hn, hall⟩, _⟩ := hok
    obtain ⟨hv1, hm1⟩ := chk_sound_ends he hc only_mem_self
    refine ⟨hv1, fun ho => ?_⟩
    have hfree : m1.leave = .free := onlyFree_mem hn (mem_leaveFrame hm1 ho)
    refine ⟨hfree, fun {sub} hsub {m2 v2} hr => ?_⟩
    rw [hfree] at hr
    exact runDefs_sound (List.all_eq_true.2 fun d hd => List.all_eq_true.1 hall d (hsub.subset hd)) hr

/-- acceptance without a requirement on the final state (used where the "mutex" is a
one-way gate that is never released: *gate domination*) -/
def entryOK (P : Names) (body : Sk) : Bool := (chk P body (.only .free)).isSome

theorem entryOK_sound {P : Names} {body : Sk} (hok : entryOK P body = true)
    {o : Out} {m : M} {v : Bool} (he : Exec P body .free o m v) : v = false :=
  (chk_sound_ends he (Option.eq_some_of_isSome hok) only_mem_self).1

/-- a helper that expects the mutex to be held by its caller: accepted entered "held",
never releases it, defers nothing that touches the state -/
def helperOK (P : Names) (body : Sk) : Bool :=
  (deferredBlocks P body).isEmpty && !hasDeferUnlock P body &&
  match chk P body (.only .held) with
  | some r => r.norm.allHeld && r.ret.allHeld && r.pan.allHeld
  | none => false

theorem helperOK_sound {P : Names} {body : Sk} (hok : helperOK P body = true)
    {o : Out} {m' : M} {v : Bool} (he : Exec P body .held o m' v) : v = false ∧ m'.isHeld = true := by
  rw [helperOK, Bool.and_eq_true] at hok
  -- "defers nothing that touches the mutex or the state" is not needed here: it is what makes `Exec` of
  -- the body all that matters of the helper (its frame exit, which `Exec` does not model, touches neither)
  obtain ⟨_, hok⟩ := hok
  split at hok
  · rename_i r hc
    simp only [Bool.and_eq_true] at hok
    obtain ⟨hv, hm'⟩ := chk_sound_ends he hc only_mem_self
    refine ⟨hv, ?_⟩
    cases o
    · exact allHeld_mem hok.1.1 hm'
    · exact allHeld_mem hok.1.2 hm'
    · exact allHeld_mem hok.2 hm'
  · cases hok

end CM.Guard
