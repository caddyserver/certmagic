/-
The reference key–value tree of the `Storage` contract (storage.go, type comment of
`Storage`; core Lean only).

* A key is a list of path components (`"a/b/c"` = `[a, b, c]`); stored keys are non-empty.
* "A *prefix* of a key is defined on a component basis, e.g. `a` is a prefix of `a/b` but
  not of `ab/c`": prefix = `List` prefix `<+:` on components.
* A *file* is a key with a value; a *directory* is a key without a value that is a prefix
  of a stored key.  The *nodes* of the tree are the stored keys and their prefixes.
* `load`, `stat`, `list` of a key that is no node report "does not exist" (`none`);
  `delete p` removes exactly the keys that have `p` as a prefix; a non-recursive `list p`
  returns the direct children of `p`, a recursive one all descendants (files and
  directories, which is what `FileStorage.List` enumerates).

The store is an association list; all laws are stated with `load` / membership, so they
do not depend on the order or on shadowed duplicates.  The component type `κ` and the
value type `ν` are parameters (the C10 driver uses `Nat` for both).
-/
namespace CM.KV

abbrev Key (κ : Type) := List κ
abbrev Store (κ ν : Type) := List (Key κ × ν)

variable {κ : Type} [DecidableEq κ] {ν : Type}

/-- the value at `k` (first binding wins) -/
def load : Store κ ν → Key κ → Option ν
  | [], _ => none
  | (k', v) :: r, k => if k' = k then some v else load r k

def store (s : Store κ ν) (k : Key κ) (v : ν) : Store κ ν :=
  (k, v) :: s.filter (fun e => decide (e.1 ≠ k))

def delete (s : Store κ ν) (p : Key κ) : Store κ ν :=
  s.filter (fun e => !p.isPrefixOf e.1)

def «exists» (s : Store κ ν) (k : Key κ) : Bool :=
  s.any (fun e => k.isPrefixOf e.1)

def longerPrefixes (n : Nat) (k : Key κ) : List (Key κ) :=
  (List.range (k.length - n)).map (fun i => k.take (n + i + 1))

/-- all nodes strictly below `p` (with repetitions; compare as sets) -/
def descendants (s : Store κ ν) (p : Key κ) : List (Key κ) :=
  s.flatMap (fun e => if p.isPrefixOf e.1 then longerPrefixes p.length e.1 else [])

def children (s : Store κ ν) (p : Key κ) : List (Key κ) :=
  (descendants s p).filter (fun k => k.length == p.length + 1)

/-- `none` = "does not exist". The root `[]` always exists. -/
def list (s : Store κ ν) (p : Key κ) (recursive : Bool) : Option (List (Key κ)) :=
  if p ≠ [] ∧ «exists» s p = false then none
  else some (if recursive then descendants s p else children s p)

/-- what `Stat` reports: terminal (a file) with its size, or a directory -/
inductive Info where
  | file (size : Nat)
  | dir
  deriving DecidableEq, Repr

def stat (sz : ν → Nat) (s : Store κ ν) (k : Key κ) : Option Info :=
  match load s k with
  | some v => some (.file (sz v))
  | none => if «exists» s k then some .dir else none

/-- no stored key is a proper prefix of another (files are not directories) -/
def PrefixFree (s : Store κ ν) : Prop :=
  ∀ a ∈ s, ∀ b ∈ s, a.1 <+: b.1 → a.1 = b.1

theorem load_mem {s : Store κ ν} {k : Key κ} {v : ν} (h : load s k = some v) : (k, v) ∈ s := by
  fun_induction load s k with
  | case1 => cases h
  | case2 => cases h; exact List.mem_cons_self
  | case3 _ _ _ _ _ ih => exact List.mem_cons_of_mem _ (ih h)

theorem load_of_mem {s : Store κ ν} {k : Key κ} {v : ν} (h : (k, v) ∈ s) : ∃ v', load s k = some v' := by
  fun_induction load s k with
  | case1 => cases h
  | case2 v' => exact ⟨v', rfl⟩
  | case3 _ _ _ _ hk ih =>
    rcases List.mem_cons.mp h with h | h
    · exact absurd (Prod.mk.inj h).1.symm hk
    · exact ih h

theorem load_filter (s : Store κ ν) (f : Key κ → Bool) (k : Key κ) :
    load (s.filter (fun e => f e.1)) k = if f k then load s k else none := by
  induction s with
  | nil => simp [load]
  | cons e r ih =>
    obtain ⟨k', v'⟩ := e
    by_cases hk : k' = k
    · subst hk
      cases hf : f k' <;> simp [List.filter, hf, load, ih]
    · cases hf : f k' <;> simp [List.filter, hf, load, hk, ih]

theorem mem_store {s : Store κ ν} {k : Key κ} {v : ν} {e : Key κ × ν} :
    e ∈ store s k v ↔ e = (k, v) ∨ (e ∈ s ∧ e.1 ≠ k) := by
  rw [store, List.mem_cons, List.mem_filter, decide_eq_true_eq]

theorem isPrefixOf_eq_false {p k : Key κ} : p.isPrefixOf k = false ↔ ¬ p <+: k := by
  rw [← Bool.not_eq_true, List.isPrefixOf_iff_prefix]

theorem mem_delete {s : Store κ ν} {p : Key κ} {e : Key κ × ν} :
    e ∈ delete s p ↔ e ∈ s ∧ ¬ p <+: e.1 := by
  rw [delete, List.mem_filter, Bool.not_eq_true', isPrefixOf_eq_false]

theorem exists_iff_mem {s : Store κ ν} {k : Key κ} : «exists» s k = true ↔ ∃ e ∈ s, k <+: e.1 := by
  unfold «exists»
  simp only [List.any_eq_true, List.isPrefixOf_iff_prefix]

/-- a stored value is read back; other keys are unaffected -/
theorem load_store (s : Store κ ν) (k k' : Key κ) (v : ν) :
    load (store s k v) k' = if k' = k then some v else load s k' := by
  show (if k = k' then some v else load (s.filter fun e => decide (e.1 ≠ k)) k') = _
  rw [load_filter s (fun x => decide (x ≠ k))]
  by_cases h : k' = k
  · rw [if_pos h.symm, if_pos h]
  · rw [if_neg (Ne.symm h), if_neg h, if_pos (decide_eq_true h)]

/-- `delete p` removes exactly the keys having the prefix `p`
(by whole components) and leaves every other key with its value -/
theorem delete_prefix_exact (s : Store κ ν) (p k : Key κ) :
    load (delete s p) k = if p <+: k then none else load s k := by
  unfold delete
  rw [load_filter s (fun x => !p.isPrefixOf x) k]
  simp [isPrefixOf_eq_false]

/-- a key exists iff it is a prefix (by whole components) of a key that
has a value — i.e. it is a file or a directory -/
theorem exists_iff (s : Store κ ν) (k : Key κ) :
    «exists» s k = true ↔ ∃ k' v, load s k' = some v ∧ k <+: k' := by
  rw [exists_iff_mem]
  constructor
  · rintro ⟨⟨k', v'⟩, hm, hp⟩
    obtain ⟨v, hv⟩ := load_of_mem hm
    exact ⟨k', v, hv, hp⟩
  · rintro ⟨k', v, hl, hp⟩
    exact ⟨(k', v), load_mem hl, hp⟩

theorem exists_eq_false_iff {s : Store κ ν} {k : Key κ} :
    «exists» s k = false ↔ ∀ k' v, load s k' = some v → ¬ k <+: k' := by
  rw [← Bool.not_eq_true, exists_iff]
  exact ⟨fun h k' v hl hp => h ⟨k', v, hl, hp⟩, fun h ⟨k', v, hl, hp⟩ => h k' v hl hp⟩

omit [DecidableEq κ] in
theorem prefix_ne_iff_length_lt {a b : Key κ} (h : a <+: b) : a ≠ b ↔ a.length < b.length := by
  constructor
  · intro hne
    exact Nat.lt_of_le_of_ne h.length_le (fun hl => hne (h.eq_of_length hl))
  · intro hl he
    rw [he] at hl
    exact Nat.lt_irrefl _ hl

omit [DecidableEq κ] in
theorem mem_map_take (k x : Key κ) (n m : Nat) (h : m ≤ k.length - n) :
    x ∈ (List.range m).map (fun i => k.take (n + i + 1)) ↔
      x <+: k ∧ n < x.length ∧ x.length ≤ n + m := by
  simp only [List.mem_map, List.mem_range]
  constructor
  · rintro ⟨i, hi, rfl⟩
    have hle : n + i + 1 ≤ k.length := Nat.add_lt_of_lt_sub' (Nat.lt_of_lt_of_le hi h)
    rw [List.length_take_of_le hle]
    exact ⟨List.take_prefix _ _, Nat.lt_succ_of_le (Nat.le_add_right n i), Nat.add_lt_add_left hi n⟩
  · rintro ⟨hp, hn, hm⟩
    obtain ⟨i, hi⟩ := Nat.exists_eq_add_of_lt hn
    refine ⟨i, ?_, ?_⟩
    · rw [hi] at hm
      exact Nat.lt_of_add_lt_add_left (Nat.lt_of_succ_le hm)
    · rw [← hi]
      exact (List.prefix_iff_eq_take.mp hp).symm

omit [DecidableEq κ] in
theorem mem_longerPrefixes (n : Nat) (k x : Key κ) :
    x ∈ longerPrefixes n k ↔ x <+: k ∧ n < x.length := by
  unfold longerPrefixes
  rw [mem_map_take k x n _ (Nat.le_refl _)]
  constructor
  · rintro ⟨hp, hn, _⟩
    exact ⟨hp, hn⟩
  · rintro ⟨hp, hn⟩
    exact ⟨hp, hn, Nat.le_trans hp.length_le (Nat.add_comm _ _ ▸ Nat.le_add_of_sub_le (Nat.le_refl _))⟩

theorem mem_descendants (s : Store κ ν) (p x : Key κ) :
    x ∈ descendants s p ↔ ∃ e ∈ s, p <+: e.1 ∧ x <+: e.1 ∧ p.length < x.length := by
  simp only [descendants, List.mem_flatMap, List.mem_ite_nil_right, List.isPrefixOf_iff_prefix,
    mem_longerPrefixes]

/-- a recursive listing of `p` is exactly the set of nodes strictly
below `p`: the keys `x ≠ p` that have `p` as a component-wise prefix and exist -/
theorem list_recursive (s : Store κ ν) (p x : Key κ) :
    x ∈ descendants s p ↔ (p <+: x ∧ x ≠ p ∧ «exists» s x = true) := by
  rw [mem_descendants, exists_iff_mem]
  constructor
  · rintro ⟨e, he, hp, hx, hl⟩
    have hpx : p <+: x := List.prefix_of_prefix_length_le hp hx (Nat.le_of_lt hl)
    exact ⟨hpx, Ne.symm ((prefix_ne_iff_length_lt hpx).mpr hl), e, he, hx⟩
  · rintro ⟨hpx, hne, e, he, hx⟩
    exact ⟨e, he, hpx.trans hx, hx, (prefix_ne_iff_length_lt hpx).mp (Ne.symm hne)⟩

omit [DecidableEq κ] in
theorem prefix_length_succ_iff {p x : Key κ} : (p <+: x ∧ x.length = p.length + 1) ↔ ∃ c, x = p ++ [c] := by
  constructor
  · rintro ⟨⟨t, rfl⟩, hl⟩
    rw [List.length_append, Nat.add_left_cancel_iff] at hl
    obtain ⟨c, rfl⟩ := List.length_eq_one_iff.mp hl
    exact ⟨c, rfl⟩
  · rintro ⟨c, rfl⟩
    exact ⟨List.prefix_append _ _, List.length_append⟩

theorem mem_children (s : Store κ ν) (p x : Key κ) :
    x ∈ children s p ↔ x ∈ descendants s p ∧ x.length = p.length + 1 := by
  rw [children, List.mem_filter, beq_iff_eq]

/-- a non-recursive listing of `p` is exactly the set of direct
children of `p`: the existing keys `p ++ [c]` -/
theorem list_nonrecursive (s : Store κ ν) (p x : Key κ) :
    x ∈ children s p ↔ ((∃ c, x = p ++ [c]) ∧ «exists» s x = true) := by
  rw [mem_children, list_recursive, ← prefix_length_succ_iff]
  constructor
  · rintro ⟨⟨hpx, _, hex⟩, hl⟩
    exact ⟨⟨hpx, hl⟩, hex⟩
  · rintro ⟨⟨hpx, hl⟩, hex⟩
    refine ⟨⟨hpx, fun h => ?_, hex⟩, hl⟩
    rw [h] at hl
    exact absurd hl (Nat.ne_of_lt (Nat.lt_succ_self _))

theorem list_some (s : Store κ ν) (p : Key κ) (r : Bool) (h : p = [] ∨ «exists» s p = true) :
    list s p r = some (if r then descendants s p else children s p) := by
  unfold list
  rcases h with h | h <;> simp [h]

theorem mem_list {s : Store κ ν} {p : Key κ} {r : Bool} {l : List (Key κ)} (h : list s p r = some l)
    (x : Key κ) :
    x ∈ l ↔ (p <+: x ∧ x ≠ p ∧ «exists» s x = true) ∧ (r = true ∨ x.length = p.length + 1) := by
  revert h
  fun_cases list s p r
  all_goals intro h; cases h
  cases r
  · rw [if_neg Bool.false_ne_true, mem_children, list_recursive]
    exact and_congr_right fun _ => (or_iff_right Bool.false_ne_true).symm
  · rw [if_pos rfl, list_recursive]
    exact (and_iff_left (Or.inl rfl)).symm

theorem exists_of_load {s : Store κ ν} {k : Key κ} {v : ν} (h : load s k = some v) :
    «exists» s k = true :=
  (exists_iff s k).mpr ⟨k, v, h, List.prefix_refl k⟩

/-- after `delete p` nothing below `p` exists, and what exists elsewhere still exists -/
theorem exists_delete (s : Store κ ν) (p k : Key κ) :
    «exists» (delete s p) k = true ↔ ∃ k' v, load s k' = some v ∧ k <+: k' ∧ ¬ p <+: k' := by
  rw [exists_iff]
  refine exists_congr fun k' => exists_congr fun v => ?_
  rw [delete_prefix_exact, Option.ite_none_left_eq_some]
  exact ⟨fun ⟨⟨hnp, hl⟩, hk⟩ => ⟨hl, hk, hnp⟩, fun ⟨hl, hk, hnp⟩ => ⟨⟨hnp, hl⟩, hk⟩⟩

theorem not_exists_below_deleted (s : Store κ ν) (p k : Key κ) (h : p <+: k) :
    «exists» (delete s p) k = false := by
  rw [← Bool.not_eq_true, exists_delete]
  rintro ⟨k', _, _, hk, hnp⟩
  exact hnp (h.trans hk)

/-- `delete` keeps the stored set prefix-free -/
theorem prefixFree_delete {s : Store κ ν} (h : PrefixFree s) (p : Key κ) : PrefixFree (delete s p) := by
  intro a ha b hb
  exact h a (mem_delete.mp ha).1 b (mem_delete.mp hb).1

/-- `store` keeps the stored set prefix-free when the new key is neither above nor below
another stored key -/
theorem prefixFree_store {s : Store κ ν} (h : PrefixFree s) (k : Key κ) (v : ν)
    (hk : ∀ e ∈ s, (e.1 <+: k ∨ k <+: e.1) → e.1 = k) : PrefixFree (store s k v) := by
  intro a ha b hb hab
  rcases mem_store.mp ha with rfl | ⟨ha, _⟩ <;> rcases mem_store.mp hb with rfl | ⟨hb, _⟩
  · rfl
  · exact (hk b hb (Or.inr hab)).symm
  · exact hk a ha (Or.inl hab)
  · exact h a ha b hb hab

/-! ## the documented example: `a` is a prefix of `a/b` but not of `ab/c` -/

example : (load (delete (store (store ([] : Store String Nat) ["a", "b"] 1) ["ab", "c"] 2) ["a"]) ["ab", "c"],
           load (delete (store (store ([] : Store String Nat) ["a", "b"] 1) ["ab", "c"] 2) ["a"]) ["a", "b"])
          = (some 2, none) := by decide +kernel

example : list (store (store ([] : Store String Nat) ["a", "b", "c"] 1) ["a", "d"] 2) ["a"] false
          = some [["a", "d"], ["a", "b"]] := by decide +kernel

example : list (store (store ([] : Store String Nat) ["a", "b", "c"] 1) ["a", "d"] 2) ["a"] true
          = some [["a", "d"], ["a", "b"], ["a", "b", "c"]] := by decide +kernel

example : list (store ([] : Store String Nat) ["a", "b"] 1) ["x"] true = none := by decide +kernel

end CM.KV
