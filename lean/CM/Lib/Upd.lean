/-!
The point update of a function, `fun x => if x = k then v else f x`. Every model with per-actor maps
defines it under a name of its own (`upd`, `updB`, `setW`, …) and each of those unfolds to this shape, so
the facts below are stated on the shape and apply to all of them.
-/
namespace CM.Upd

variable {ι α : Sort _} [DecidableEq ι] {f : ι → α} {k : ι} {v : α}

theorem forall_upd {P : ι → α → Prop} (hk : P k v) (hf : ∀ x, x ≠ k → P x (f x)) (x : ι) :
    P x (if x = k then v else f x) := by
  split
  next h => exact h ▸ hk
  next h => exact hf x h

/-- `g` is found by unification, e.g. from `ownIno (upd s.pc p x q) = some i` -/
theorem apply_upd {β : Sort _} {g : α → β} {x : ι} {b : β} (h : g (if x = k then v else f x) = b) :
    x = k ∧ g v = b ∨ x ≠ k ∧ g (f x) = b := by
  split at h
  next hx => exact .inl ⟨hx, h⟩
  next hx => exact .inr ⟨hx, h⟩

theorem upd_eq {x : ι} {a : α} (h : (if x = k then v else f x) = a) : x = k ∧ v = a ∨ x ≠ k ∧ f x = a :=
  apply_upd (g := id) h

theorem upd_self (f : ι → α) (k : ι) : (fun x => if x = k then f k else f x) = f :=
  funext fun x => by split <;> simp [*]

end CM.Upd
