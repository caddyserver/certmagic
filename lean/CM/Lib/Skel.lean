/-
Skeleton IR: function bodies of the repository reduced to the actions the protocol models
talk about. Terms of this type are *generated* from /repo's source on every run by the
translator (go/extract/skel.go). This file also contains the verified *lock discipline*
checker (DESIGN 2.1-L4 a): a structural recursion over skeletons with a soundness theorem
against a big-step semantics with defer/return/panic.

The definitions from `acts` to `deferRightAfterAcq` are not part of that checker: they are the
structural predicates that the ties of C01, C07 and C09 evaluate on regenerated skeletons
(`releases` serves both). No theorem is proved about them: what a tie built from them claims is
what their definitions compute, and the docstrings say what that is.
-/
namespace CM.Skel

inductive Sk
  | act (name : String)            -- a call that may return or panic
  | ret                            -- return
  | pnc                            -- panic(...)
  | skip
  | seq (a b : Sk)
  | br (cond : String) (a b : Sk)  -- if/else, switch and select arms (nested)
  | loop (a : Sk)                  -- zero or more iterations
  | dfr (a : Sk)                   -- defer
  | spawn (a : Sk)                 -- go
  | fn (a : Sk)                    -- body of a function literal that is invoked here
  | acq (fail : Sk)                -- `err := acquireLock(..); if err != nil { fail }` fused
  deriving Repr, DecidableEq

/-- the action names of a skeleton in source order -/
def acts : Sk → List String
  | .act n => [n]
  | .seq a b => acts a ++ acts b
  | .br _ a b => acts a ++ acts b
  | .loop a => acts a
  | .dfr a => acts a
  | .spawn a => acts a
  | .fn a => acts a
  | .acq f => "acquireLock" :: acts f
  | _ => []

/-- some `b` occurs after some `a` (computed: at or after the FIRST `a`, so `before a a` asks for one
`a`). A `b` in front of that `a` is not excluded: `[b, a, b]` passes. -/
def before (a b : String) (l : List String) : Bool :=
  (l.dropWhile (· != a)).contains b && l.contains a

def flatSeq : Sk → List Sk
  | .seq a b => flatSeq a ++ flatSeq b
  | .skip => []
  | s => [s]

def isAcq : Sk → Bool
  | .acq _ => true
  | _ => false

/-- action names before / after the first top-level acquire (`none` if there is none) -/
def splitAtAcq (body : Sk) : Option (List String × List String) :=
  let l := flatSeq body
  let pre := l.takeWhile (fun s => !isAcq s)
  match l.dropWhile (fun s => !isAcq s) with
  | [] => none
  | _ :: post => some (pre.flatMap acts, post.flatMap acts)

/-- every `crit` action occurs after the first top-level acquire and none in front of it; and after
the acquire `before recheck crit.head` holds: some `crit.head` follows a `recheck` (not necessarily the
first `crit.head` there) -/
def insideLock (body : Sk) (crit : List String) (recheck : String) : Bool :=
  match splitAtAcq body with
  | none => false
  | some (pre, post) =>
    crit.all (fun c => !pre.contains c && post.contains c) &&
    (match crit with
     | c :: _ => before recheck c post
     | [] => true)

def releaseName : String := "releaseLock"

/-- does the (deferred) block perform the release as its first action? -/
def releases : Sk → Bool
  | .act n => n == releaseName
  | .seq a _ => releases a
  | .fn a => releases a
  | _ => false

def deferRightAfterAcq (body : Sk) : Bool :=
  match (flatSeq body).dropWhile (fun s => !isAcq s) with
  | _ :: .dfr a :: _ => releases a
  | _ => false

def noAcq : Sk → Bool
  | .acq _ => false
  | .seq a b => noAcq a && noAcq b
  | .br _ a b => noAcq a && noAcq b
  | .loop a => noAcq a
  | .dfr a => noAcq a
  | .spawn a => noAcq a
  | .fn a => noAcq a
  | _ => true

/-- every execution of the block leaves the function (used for the failure block of `acq`) -/
def mustExit : Sk → Bool
  | .ret => true
  | .pnc => true
  | .seq a b => mustExit a || mustExit b
  | .br _ a b => mustExit a && mustExit b
  | _ => false

inductive Out | normal | returned | panicked
  deriving DecidableEq, Repr

/-- Big-step semantics over `pending` = number of locks this function has acquired that are
neither released nor covered by a registered deferred release. Every call may panic;
`acquireLock` may fail (then the fused failure block runs); a deferred release covers one
lock (it runs on every exit, return or panic); a direct release releases one lock.
Assumption (C09 "Assumed"): the release itself neither fails nor panics. -/
inductive Exec : Sk → Nat → Out → Nat → Prop
  | actRel {p} : Exec (.act releaseName) p .normal (p - 1)
  | actOk {n p} : n ≠ releaseName → Exec (.act n) p .normal p
  | actPanic {n p} : n ≠ releaseName → Exec (.act n) p .panicked p
  | ret {p} : Exec .ret p .returned p
  | pnc {p} : Exec .pnc p .panicked p
  | skip {p} : Exec .skip p .normal p
  | seqStop {a b p o q} : o ≠ .normal → Exec a p o q → Exec (.seq a b) p o q
  | seqGo {a b p q o r} : Exec a p .normal q → Exec b q o r → Exec (.seq a b) p o r
  | brL {c a b p o q} : Exec a p o q → Exec (.br c a b) p o q
  | brR {c a b p o q} : Exec b p o q → Exec (.br c a b) p o q
  | loopDone {a p} : Exec (.loop a) p .normal p
  | loopStop {a p o q} : o ≠ .normal → Exec a p o q → Exec (.loop a) p o q
  | loopGo {a p q o r} : Exec a p .normal q → Exec (.loop a) q o r → Exec (.loop a) p o r
  | dfrRel {a p} : releases a = true → Exec (.dfr a) p .normal (p - 1)
  | dfrOther {a p} : releases a = false → Exec (.dfr a) p .normal p
  | spawn {a p} : Exec (.spawn a) p .normal p
  | fnNormal {a p q} : Exec a p .normal q → Exec (.fn a) p .normal q
  | fnReturned {a p q} : Exec a p .returned q → Exec (.fn a) p .normal q
  | fnPanicked {a p q} : Exec a p .panicked q → Exec (.fn a) p .panicked q
  | acqOk {f p} : Exec (.acq f) p .normal (p + 1)
  | acqFail {f p o q} : Exec f p o q → Exec (.acq f) p o q

/-- The checker. `some q`: accepted, and `q` is `pending` after normal completion. Every
point at which the function can be left (return, panic, any call) must have `pending = 0`. -/
def check : Sk → Nat → Option Nat
  | .act n, p => if n = releaseName then some (p - 1) else if p = 0 then some 0 else none
  | .ret, p => if p = 0 then some 0 else none
  | .pnc, p => if p = 0 then some 0 else none
  | .skip, p => some p
  | .seq a b, p => (check a p).bind (check b)
  | .br _ a b, p =>
      match check a p, check b p with
      | some q, some r => if q = r then some q else none
      | _, _ => none
  | .loop a, p => match check a p with
      | some q => if q = p then some p else none
      | none => none
  | .dfr a, p => if releases a then some (p - 1) else if noAcq a then some p else none
  | .spawn a, p => if noAcq a then some p else none
  | .fn a, p => if p = 0 then (match check a 0 with | some 0 => some 0 | _ => none) else none
  | .acq f, p => if p = 0 ∧ mustExit f = true then (match check f 0 with | some 0 => some 1 | _ => none) else none

theorem mustExit_sound {s : Sk} {p : Nat} {o : Out} {q : Nat} (he : Exec s p o q)
    (hm : mustExit s = true) : o ≠ .normal := by
  induction he with
  | actPanic | ret | pnc | fnPanicked => exact Out.noConfusion
  | seqStop ho | loopStop ho => exact ho
  | seqGo _ _ ih1 ih2 =>
    unfold mustExit at hm
    rw [Bool.or_eq_true] at hm
    exact hm.elim (fun h => absurd rfl (ih1 h)) ih2
  | brL _ ih => unfold mustExit at hm; rw [Bool.and_eq_true] at hm; exact ih hm.1
  | brR _ ih => unfold mustExit at hm; rw [Bool.and_eq_true] at hm; exact ih hm.2
  | _ => cases hm

theorem check_seq {a b : Sk} {p q : Nat} (h : check (.seq a b) p = some q) :
    ∃ q1, check a p = some q1 ∧ check b q1 = some q := by
  unfold check at h
  cases h1 : check a p with
  | none => rw [h1] at h; cases h
  | some q1 => rw [h1] at h; exact ⟨q1, rfl, h⟩

theorem check_br {c : String} {a b : Sk} {p q : Nat} (h : check (.br c a b) p = some q) :
    check a p = some q ∧ check b p = some q := by
  unfold check at h
  split at h
  · obtain ⟨rfl, hq⟩ := Option.ite_none_right_eq_some.1 h
    cases hq; exact ⟨‹_›, ‹_›⟩
  · cases h

theorem check_loop {a : Sk} {p q : Nat} (h : check (.loop a) p = some q) :
    check a p = some p ∧ q = p := by
  unfold check at h
  split at h
  · obtain ⟨rfl, hq⟩ := Option.ite_none_right_eq_some.1 h
    cases hq; exact ⟨‹_›, rfl⟩
  · cases h

theorem check_fn {a : Sk} {p q : Nat} (h : check (.fn a) p = some q) :
    p = 0 ∧ check a 0 = some 0 ∧ q = 0 := by
  obtain ⟨hp, h⟩ := Option.ite_none_right_eq_some.1 h
  split at h
  · cases h; exact ⟨hp, ‹_›, rfl⟩
  · cases h

theorem check_acq {f : Sk} {p q : Nat} (h : check (.acq f) p = some q) :
    p = 0 ∧ mustExit f = true ∧ check f 0 = some 0 ∧ q = 1 := by
  obtain ⟨⟨hp, hm⟩, h⟩ := Option.ite_none_right_eq_some.1 h
  split at h
  · cases h; exact ⟨hp, hm, ‹_›, rfl⟩
  · cases h

/-- after normal completion only the first half of `check_sound`'s conclusion says anything -/
theorem of_normal {r q : Nat} (h : r = q) : (Out.normal = .normal → r = q) ∧ (Out.normal ≠ .normal → r = 0) :=
  ⟨fun _ => h, fun h => absurd rfl h⟩

/-- Soundness: an accepted skeleton never leaves the function — by return or by panic, at
any call — with a lock that is neither released nor covered by a deferred release. -/
theorem check_sound {s : Sk} {p q : Nat} {o : Out} {r : Nat}
    (hc : check s p = some q) (he : Exec s p o r) :
    (o = .normal → r = q) ∧ (o ≠ .normal → r = 0) := by
  induction he generalizing q with
  | actRel =>
    unfold check at hc
    rw [if_pos rfl] at hc
    cases hc
    exact of_normal rfl
  | actOk hn | actPanic hn =>
    unfold check at hc
    rw [if_neg hn] at hc
    obtain ⟨rfl, hq⟩ := Option.ite_none_right_eq_some.1 hc
    cases hq
    exact ⟨fun _ => rfl, fun _ => rfl⟩
  | ret | pnc =>
    obtain ⟨rfl, hq⟩ := Option.ite_none_right_eq_some.1 hc
    cases hq
    exact ⟨fun _ => rfl, fun _ => rfl⟩
  | skip => cases hc; exact of_normal rfl
  | seqStop ho _ ih =>
    obtain ⟨q1, h1, _⟩ := check_seq hc
    exact ⟨fun h => absurd h ho, (ih h1).2⟩
  | seqGo _ _ ih1 ih2 =>
    obtain ⟨q1, h1, h2⟩ := check_seq hc
    cases (ih1 h1).1 rfl
    exact ih2 h2
  | brL _ ih => exact ih (check_br hc).1
  | brR _ ih => exact ih (check_br hc).2
  | loopDone => exact of_normal (check_loop hc).2.symm
  | loopStop ho _ ih => exact ⟨fun h => absurd h ho, (ih (check_loop hc).1).2⟩
  | loopGo _ _ ih1 ih2 =>
    -- the body leaves `pending` as it found it, so the remaining rounds are accepted as well
    cases (ih1 (check_loop hc).1).1 rfl
    exact ih2 hc
  | dfrRel hr =>
    unfold check at hc
    rw [if_pos hr] at hc
    cases hc
    exact of_normal rfl
  | dfrOther hr =>
    unfold check at hc
    rw [if_neg (Bool.eq_false_iff.1 hr)] at hc
    -- `noAcq a` (here and for `spawn`) is not needed: it is what makes it adequate that `Exec` does
    -- not run a deferred or spawned block — such a block takes no lock
    obtain ⟨_, hq⟩ := Option.ite_none_right_eq_some.1 hc
    cases hq
    exact of_normal rfl
  | spawn =>
    obtain ⟨_, hq⟩ := Option.ite_none_right_eq_some.1 hc
    cases hq
    exact of_normal rfl
  | fnNormal _ ih =>
    obtain ⟨rfl, h0, rfl⟩ := check_fn hc
    exact of_normal ((ih h0).1 rfl)
  | fnReturned _ ih =>
    obtain ⟨rfl, h0, rfl⟩ := check_fn hc
    exact of_normal ((ih h0).2 Out.noConfusion)
  | fnPanicked _ ih =>
    obtain ⟨rfl, h0, rfl⟩ := check_fn hc
    exact ⟨Out.noConfusion, fun _ => (ih h0).2 Out.noConfusion⟩
  | acqOk =>
    obtain ⟨rfl, _, _, rfl⟩ := check_acq hc
    exact of_normal rfl
  | acqFail hf ih =>
    obtain ⟨rfl, hm, h0, rfl⟩ := check_acq hc
    exact ⟨fun ho => absurd ho (mustExit_sound hf hm), (ih h0).2⟩

end CM.Skel
