/-!
# The translator's single-exit conversion is meaning-preserving

`go/extract/normalise.go` inlines into their callers the functions that
`go/extract/known_funcs.txt` does not list (a helper split off by a refactoring is such a
function). A helper with early returns is first brought into *single-exit form*: what follows an
`if` that contains a `return` moves into its branches,

    if c { A; return x }; B        ⇒        if c { A; x } else { B }

(`singleExit` in the Go source). This file states that conversion on a small structured
language and proves, for every program and every behaviour of the conditions, that it changes
neither the effects performed nor the value returned, and that its result has the single-exit
shape the splicer relies on. The Go function is a transcription of `se` below (same case
analysis); the proof is about the algorithm, the transcription is read, not verified.
-/
namespace CM.SingleExit

/-- statement lists in continuation form: `act n k` = an effect then `k`; `ret v` = return
(whatever follows is dead); `br c a b k` = `if c {a} else {b}` followed by `k`, where a
branch either returns or runs to its `done` and falls through into `k` -/
inductive Prog
  | done
  | act (n : Nat) (k : Prog)
  | ret (v : Nat)
  | br (c : Nat) (a b k : Prog)
  deriving Repr, DecidableEq

open Prog

/-- effects in order (an evaluated condition is an effect too) and the value returned, if any.
Condition `c` is recorded as `1000 + c` only to tell it from the action numbers when reading the
examples; no proof depends on the offset. -/
def exec (env : Nat → Bool) : Prog → List Nat × Option Nat
  | done => ([], none)
  | act n k => let r := exec env k; (n :: r.1, r.2)
  | ret v => ([], some v)
  | br c a b k =>
    let r := if env c then exec env a else exec env b
    match r.2 with
    | some v => ((1000 + c) :: r.1, some v)
    | none => let q := exec env k; ((1000 + c) :: (r.1 ++ q.1), q.2)

def seq : Prog → Prog → Prog
  | done, k => k
  | act n p, k => act n (seq p k)
  | ret v, _ => ret v
  | br c a b p, k => br c a b (seq p k)

def hasRet : Prog → Bool
  | done => false
  | act _ k => hasRet k
  | ret _ => true
  | br _ a b k => hasRet a || hasRet b || hasRet k

def size : Prog → Nat
  | done => 1
  | act _ k => 1 + size k
  | ret _ => 1
  | br _ a b k => 1 + size a + size b + size k

theorem size_pos : ∀ p : Prog, 0 < size p
  | done | ret _ => Nat.one_pos
  | act _ _ => Nat.add_pos_left Nat.one_pos _
  | br _ _ _ _ => Nat.add_pos_left (Nat.add_pos_left (Nat.add_pos_left Nat.one_pos _) _) _

theorem size_seq (p k : Prog) : size (seq p k) + 1 ≤ size p + size k := by
  fun_induction seq p k with
  | case1 k => rw [size, Nat.add_comm]; exact Nat.le_refl _
  | case2 n p k ih => simp only [size, Nat.add_assoc]; exact Nat.add_le_add_left ih _
  | case3 v k => exact Nat.add_le_add_left (size_pos k) _
  | case4 c a b p k ih =>
    -- both sides are `1 + (size a + (size b + ·))` of the two sides of `ih`
    simp only [size, Nat.add_assoc]
    exact Nat.add_le_add_left (Nat.add_le_add_left (Nat.add_le_add_left ih _) _) _

/-- behaviours compose: what `r` did and, unless it returned, what `q` does after it -/
def andThen (r q : List Nat × Option Nat) : List Nat × Option Nat :=
  match r.2 with
  | some v => (r.1, some v)
  | none => (r.1 ++ q.1, q.2)

theorem andThen_assoc (r q s : List Nat × Option Nat) :
    andThen (andThen r q) s = andThen r (andThen q s) := by
  obtain ⟨l, _ | v⟩ := r
  · obtain ⟨l', _ | v'⟩ := q <;> simp [andThen]
  · rfl

theorem andThen_nil (r : List Nat × Option Nat) : andThen r ([], none) = r := by
  obtain ⟨l, _ | v⟩ := r <;> simp [andThen]

theorem exec_act (env : Nat → Bool) (n : Nat) (k : Prog) :
    exec env (act n k) = andThen ([n], none) (exec env k) :=
  rfl

theorem exec_br (env : Nat → Bool) (c : Nat) (a b k : Prog) :
    exec env (br c a b k) =
      andThen ([1000 + c], none) (andThen (if env c then exec env a else exec env b) (exec env k)) := by
  simp only [exec, andThen]
  cases (if env c = true then exec env a else exec env b).2 <;> rfl

theorem exec_seq (env : Nat → Bool) (p k : Prog) :
    exec env (seq p k) = andThen (exec env p) (exec env k) := by
  fun_induction seq p k with
  | case1 | case3 => rfl
  | case2 n p k ih => rw [exec_act, exec_act, ih, andThen_assoc]
  | case4 c a b p k ih => rw [exec_br, exec_br, ih, andThen_assoc, andThen_assoc]

/-- the one step of the conversion: the continuation of an `if` may move into both branches -/
theorem exec_br_seq (env : Nat → Bool) (c : Nat) (a b k : Prog) :
    exec env (br c (seq a k) (seq b k) done) = exec env (br c a b k) := by
  rw [exec_br, exec_br, exec_seq, exec_seq, exec, andThen_nil]
  cases env c <;> rfl

/-- the conversion: the continuation of an `if` that contains a return moves into both of its
branches (nothing is left after it); everything else is kept -/
def se : Prog → Prog
  | done => done
  | act n k => act n (se k)
  | ret v => ret v
  | br c a b k =>
    if hasRet a || hasRet b then br c (se (seq a k)) (se (seq b k)) done
    else br c a b (se k)
termination_by p => size p
decreasing_by
  all_goals simp_wf
  all_goals simp only [size]
  · omega
  · have := size_seq a k; omega
  · have := size_seq b k; omega
  · omega

/-- **Meaning preserved**: for every program and every behaviour of the conditions, the
converted program performs the same effects in the same order and returns the same value. -/
theorem se_preserves (env : Nat → Bool) (p : Prog) : exec env (se p) = exec env p := by
  induction p using se.induct with
  | case1 => rw [se]
  | case2 n k ih => rw [se, exec_act, exec_act, ih]
  | case3 v => rw [se]
  | case4 c a b k h iha ihb =>
    rw [se, if_pos h, ← exec_br_seq env c a b k, exec_br, exec_br, iha, ihb]
  | case5 c a b k h ih => rw [se, if_neg h, exec_br, exec_br, ih]

/-- single-exit shape: nothing follows an `if` that contains a return -/
def shaped : Prog → Bool
  | done => true
  | act _ k => shaped k
  | ret _ => true
  | br _ a b k => shaped a && shaped b && shaped k && (!(hasRet a || hasRet b) || k == done)

theorem shaped_of_noRet (p : Prog) (h : hasRet p = false) : shaped p = true := by
  fun_induction shaped p with
  | case1 | case3 => rfl
  | case2 n k ih => exact ih h
  | case4 c a b k iha ihb ihk =>
    simp only [hasRet, Bool.or_eq_false_iff] at h
    simp [iha h.1.1, ihb h.1.2, ihk h.2, h.1.1, h.1.2]

/-- **Shape**: the result of the conversion is in single-exit form -/
theorem se_shaped (p : Prog) : shaped (se p) = true := by
  induction p using se.induct with
  | case1 => rw [se]; rfl
  | case2 n k ih => rw [se, shaped, ih]
  | case3 v => rw [se]; rfl
  | case4 c a b k h iha ihb => rw [se, if_pos h]; simp [shaped, iha, ihb]
  | case5 c a b k h ih =>
    rw [se, if_neg h]
    simp only [Bool.or_eq_true, not_or] at h
    simp [shaped, shaped_of_noRet, h, ih]

/-- non-vacuity: a helper with early returns (`load; if err {return 0}; parse;
if err {delete; return 0}; if fresh {return 1}; return 0`) is converted, keeps its meaning, and
ends up without anything after its returning `if`s -/
def exHelper : Prog :=
  act 1 (br 10 (ret 0) done (act 2 (br 11 (act 3 (ret 0)) done (br 12 (ret 1) done (ret 0)))))

example : shaped exHelper = false := by decide +kernel
example : shaped (se exHelper) = true := se_shaped _
example : exec (fun c => c == 12) (se exHelper) = ([1, 1010, 2, 1011, 1012], some 1) := by
  rw [se_preserves]; decide +kernel

end CM.SingleExit
