/-
Resumable *effect programs* (DESIGN §6): a model of sequential Go code as a tree whose
inner nodes are the calls the code makes to its environment (doubles, shared in-process
state). Every effect has a Boolean response (richer answers are asked as several
effects, exactly as the Go code tests them one `if` at a time); `spawn` starts a
goroutine whose result is dropped; `sub` is a call of a sub-program (semantically the
same as grafting its tree in, but kept as a node so that checkers can summarise the
callee once instead of once per leaf). Models are written in do-notation in the
continuation-passing monad `TProg` and turned into trees by `reify`.

One program, three uses:
 * `run p oracle n` resolves every response by an oracle and yields the effect trace of
   the thread itself, the traces of all goroutines it started, and the result;
 * the all-paths analysis `analyze` runs a trace monitor (`Mon`) over every path of the
   program; its soundness theorem lifts a `decide` over the finite tree to a statement
   about every oracle — the quantifier *is* the finite tree;
 * the driver walks the program along an *observed* trace (CM/Drv/C02).
-/
namespace CM.Prog

/-- result types of (sub-)programs and monitor states are small finite types with a numbering -/
class Code (α : Type) where
  enc : α → Nat
  dec : Nat → α
  dec_enc : ∀ a, dec (enc a) = a
  lt : ∀ a, enc a < 256
  /-- `force a f = f a`, written so that evaluating it evaluates `a` first (kernel
  reduction is lazy; without this, monitor states pile up as unevaluated terms) -/
  force : {β : Type} → α → (α → β) → β
  force_eq : ∀ {β : Type} (a : α) (f : α → β), force a f = f a

instance : Code Unit where
  enc := fun _ => 0
  dec := fun _ => ()
  dec_enc := fun _ => rfl
  lt := fun _ => by decide
  force := fun a f => f a
  force_eq := fun _ _ => rfl

instance : Code Bool where
  enc := fun b => if b then 1 else 0
  dec := fun n => n == 1
  dec_enc := fun b => by cases b <;> rfl
  lt := fun b => by cases b <;> decide
  force := fun b f => match b with
    | true => f true
    | false => f false
  force_eq := fun b f => by cases b <;> rfl

def pcode {σ : Type} [Code σ] (r : Nat) (s : σ) : Nat := r * 256 + Code.enc s
def psnd {σ : Type} [Code σ] (n : Nat) : σ := Code.dec (n % 256)

theorem pcode_div {σ : Type} [Code σ] (r : Nat) (s : σ) : pcode r s / 256 = r := by
  rw [pcode, Nat.mul_comm, Nat.mul_add_div (by decide), Nat.div_eq_of_lt (Code.lt s), Nat.add_zero]

theorem psnd_pcode {σ : Type} [Code σ] (r : Nat) (s : σ) : psnd (pcode r s) = s := by
  rw [psnd, pcode, Nat.mul_comm, Nat.mul_add_mod, Nat.mod_eq_of_lt (Code.lt s), Code.dec_enc]

/-- the tree of a program; results are numbers (`Code.enc` of the typed result) -/
inductive Prog (ε : Type) where
  | done (r : Nat) : Prog ε
  | eff (e : ε) (k : Bool → Prog ε) : Prog ε
  | spawn (child : Prog ε) (k : Prog ε) : Prog ε
  | sub (p : Prog ε) (k : Nat → Prog ε) : Prog ε

/-- typed programs in continuation-passing form: a monad (so that models read like the Go
they follow) whose bind costs nothing; `reify` yields the tree -/
def TProg (ε : Type) (α : Type) : Type := (α → Prog ε) → Prog ε

instance {ε : Type} : Monad (TProg ε) where
  pure a := fun k => k a
  bind m f := fun k => m (fun a => f a k)

variable {ε : Type}

def ask (e : ε) : TProg ε Bool := fun k => .eff e k
def act (e : ε) : TProg ε Unit := fun k => .eff e (fun _ => k ())
def reify {α : Type} [Code α] (p : TProg ε α) : Prog ε := p (fun a => .done (Code.enc a))
/-- `go child` -/
def fork (child : TProg ε Unit) : TProg ε Unit := fun k => .spawn (reify child) (k ())
def call {β : Type} [Code β] (p : TProg ε β) : TProg ε β := fun k => .sub (reify p) (fun n => k (Code.dec n))

abbrev Trace (ε : Type) := List (ε × Bool)

/-- what a run produces: the thread's own effect trace, the traces of all goroutines
started (transitively) by it, the result number, and the next unused oracle index -/
structure Out (ε : Type) where
  main : Trace ε
  kids : List (Trace ε)
  res : Nat
  next : Nat

/-- resolve every response by `o` (the i-th effect performed, in depth-first order, is
answered `o i`, so every combination of responses is some oracle) -/
def run : Prog ε → (Nat → Bool) → Nat → Out ε
  | .done r, _, n => ⟨[], [], r, n⟩
  | .eff e k, o, n =>
      let r := run (k (o n)) o (n + 1)
      ⟨(e, o n) :: r.main, r.kids, r.res, r.next⟩
  | .spawn c k, o, n =>
      let rc := run c o n
      let rk := run k o rc.next
      ⟨rk.main, rc.main :: (rc.kids ++ rk.kids), rk.res, rk.next⟩
  | .sub p k, o, n =>
      let rp := run p o n
      let rk := run (k rp.res) o rp.next
      ⟨rp.main ++ rk.main, rp.kids ++ rk.kids, rk.res, rk.next⟩

def Out.threads (r : Out ε) : List (Trace ε) := r.main :: r.kids

/-- a deterministic trace monitor: `step s e r = none` rejects the event; a goroutine's
trace is monitored from `init` -/
structure Mon (ε σ : Type) where
  step : σ → ε → Bool → Option σ
  init : σ

variable {σ : Type}

def Mon.exec (M : Mon ε σ) : Trace ε → σ → Option σ
  | [], s => some s
  | (e, r) :: t, s =>
    match M.step s e r with
    | none => none
    | some s' => M.exec t s'

def Mon.kidsOK (M : Mon ε σ) (kids : List (Trace ε)) : Bool :=
  kids.all (fun t => (M.exec t M.init).isSome)

theorem Mon.exec_append (M : Mon ε σ) (t1 t2 : Trace ε) (s : σ) :
    M.exec (t1 ++ t2) s = (M.exec t1 s).bind (M.exec t2) := by
  fun_induction Mon.exec M t1 s with
  | case1 s => rfl
  | case2 e r t s h => simp [Mon.exec, h]
  | case3 e r t s s' h ih => simpa [Mon.exec, h] using ih

def union (l1 l2 : List Nat) : List Nat := l1.foldr List.insert l2

theorem mem_union {l1 l2 : List Nat} {x : Nat} :
    x ∈ union l1 l2 ↔ x ∈ l1 ∨ x ∈ l2 := by
  induction l1 with
  | nil => simp [union]
  | cons a l ih =>
    simp only [union, List.foldr_cons, List.mem_insert_iff, List.mem_cons, or_assoc] at ih ⊢
    rw [ih]

def joinAll (g : Nat → Option (List Nat)) (l : List Nat) : Option (List Nat) :=
  l.foldr (fun x acc => match acc, g x with
    | some a, some b => some (union b a)
    | _, _ => none) (some [])

theorem joinAll_mem (g : Nat → Option (List Nat)) (l : List Nat) (r : List Nat)
    (h : joinAll g l = some r) (x : Nat) (hx : x ∈ l) :
    ∃ b, g x = some b ∧ ∀ y ∈ b, y ∈ r := by
  induction l generalizing r with
  | nil => cases hx
  | cons a l ih =>
    simp only [joinAll, List.foldr_cons] at h
    split at h
    · rename_i acc b hacc hga
      cases h
      rcases List.mem_cons.1 hx with rfl | hx
      · exact ⟨b, hga, fun y hy => mem_union.2 (Or.inl hy)⟩
      · obtain ⟨b', hb', hsub⟩ := ih acc hacc hx
        exact ⟨b', hb', fun y hy => mem_union.2 (Or.inr (hsub y hy))⟩
    · cases h

/-- All-paths analysis: run the monitor over every path of the program. `none`: some path
is rejected (in the thread or in a goroutine it starts). `some l`: no path is rejected and
`l` lists the numbers (`pcode`) of the distinct (result, monitor state) pairs with which the
thread can finish. A called sub-program is summarised once per call and entry state, and its
continuation is explored once per distinct outcome. -/
def analyze (M : Mon ε σ) [Code σ] : Prog ε → σ → Option (List Nat)
  | .done r, s => some [pcode r s]
  | .eff e k, s =>
      match M.step s e true, M.step s e false with
      | some s1, some s0 =>
        match Code.force s1 (analyze M (k true)), Code.force s0 (analyze M (k false)) with
        | some l1, some l0 => some (union l1 l0)
        | _, _ => none
      | _, _ => none
  | .spawn c k, s =>
      match analyze M c M.init with
      | some _ => analyze M k s
      | none => none
  | .sub p k, s =>
      match analyze M p s with
      | none => none
      | some l => joinAll (fun x => Code.force (psnd x) (analyze M (k (x / 256)))) l

/-- Soundness of the analysis: for every oracle the run is accepted by the monitor (thread
and goroutines) and finishes with one of the listed (result, state) pairs. -/
theorem analyze_sound (M : Mon ε σ) [Code σ] (p : Prog ε) :
    ∀ (s : σ) (l : List Nat), analyze M p s = some l → ∀ (o : Nat → Bool) (n : Nat),
      ∃ s', M.exec (run p o n).main s = some s' ∧ pcode (run p o n).res s' ∈ l ∧
        M.kidsOK (run p o n).kids = true := by
  induction p with
  | done r =>
    intro s l h o n
    cases h
    exact ⟨s, rfl, List.mem_singleton_self _, rfl⟩
  | eff e k ih =>
    intro s l h o n
    -- whichever way the oracle answers, that branch was analysed and its outcomes are in `l`
    have hb : ∃ sb lb, M.step s e (o n) = some sb ∧ analyze M (k (o n)) sb = some lb ∧ ∀ x ∈ lb, x ∈ l := by
      simp only [analyze, Code.force_eq] at h
      split at h
      · rename_i s1 s0 h1 h0
        split at h
        · rename_i l1 l0 ha1 ha0
          cases h
          cases o n
          · exact ⟨s0, l0, h0, ha0, fun x hx => mem_union.2 (Or.inr hx)⟩
          · exact ⟨s1, l1, h1, ha1, fun x hx => mem_union.2 (Or.inl hx)⟩
        · cases h
      · cases h
    obtain ⟨sb, lb, hstep, ha, hsub⟩ := hb
    obtain ⟨s', hs, hm, hk⟩ := ih (o n) sb lb ha o (n + 1)
    exact ⟨s', by simp [run, Mon.exec, hstep, hs], hsub _ hm, hk⟩
  | spawn c k ihc ihk =>
    intro s l h o n
    simp only [analyze] at h
    split at h
    · rename_i lc hc
      obtain ⟨sc, hsc, _, hkc⟩ := ihc M.init lc hc o n
      obtain ⟨s', hs, hm, hk⟩ := ihk s l h o (run c o n).next
      refine ⟨s', hs, hm, ?_⟩
      simp only [run, Mon.kidsOK, List.all_cons, List.all_append, Bool.and_eq_true]
      exact ⟨by simp [hsc], hkc, hk⟩
    · cases h
  | sub p k ihp ihk =>
    intro s l h o n
    simp only [analyze, Code.force_eq] at h
    split at h
    · cases h
    · rename_i lp hp
      obtain ⟨sp, hsp, hmp, hkp⟩ := ihp s lp hp o n
      obtain ⟨b, hb, hsub⟩ := joinAll_mem _ lp l h _ hmp
      rw [pcode_div, psnd_pcode] at hb
      obtain ⟨s', hs, hm, hk⟩ := ihk (run p o n).res sp b hb o (run p o n).next
      refine ⟨s', by simp [run, Mon.exec_append, hsp, hs], hsub _ hm, ?_⟩
      simp only [run, Mon.kidsOK, List.all_append, Bool.and_eq_true]
      exact ⟨hkp, hk⟩

def allPaths (M : Mon ε σ) [Code σ] (p : Prog ε) (s : σ) : Bool :=
  (analyze M p s).isSome

theorem allPaths_sound (M : Mon ε σ) [Code σ] (p : Prog ε) (s : σ)
    (h : allPaths M p s = true) (o : Nat → Bool) (n : Nat) :
    (M.exec (run p o n).main s).isSome = true ∧ M.kidsOK (run p o n).kids = true := by
  obtain ⟨l, ha⟩ := Option.isSome_iff_exists.1 h
  obtain ⟨s', hs, _, hk⟩ := analyze_sound M p s l ha o n
  exact ⟨by rw [hs]; rfl, hk⟩

def traceNever (bad : ε → Bool) (t : Trace ε) : Bool := t.all (fun x => !bad x.1)

def outNever (bad : ε → Bool) (r : Out ε) : Bool :=
  r.threads.all (traceNever bad)

theorem outNever_iff {bad : ε → Bool} {r : Out ε} :
    outNever bad r = true ↔ ∀ t ∈ r.threads, ∀ x ∈ t, bad x.1 = false := by
  simp only [outNever, traceNever, List.all_eq_true, Bool.not_eq_true']

theorem outNever_mono {bad bad' : ε → Bool} (hb : ∀ e, bad' e = true → bad e = true) {r : Out ε}
    (h : outNever bad r = true) : outNever bad' r = true := by
  rw [outNever_iff] at h ⊢
  exact fun t ht x hx => Bool.eq_false_iff.2 fun hx' => Bool.eq_false_iff.1 (h t ht x hx) (hb _ hx')

def neverMon (bad : ε → Bool) : Mon ε Unit where
  step := fun _ e _ => if bad e then none else some ()
  init := ()

theorem neverMon_step (bad : ε → Bool) (u : Unit) (e : ε) (r : Bool) :
    (neverMon bad).step u e r = if bad e then none else some () := rfl

theorem neverMon_exec (bad : ε → Bool) (t : Trace ε) (u : Unit) :
    ((neverMon bad).exec t u).isSome = traceNever bad t := by
  induction t with
  | nil => rfl
  | cons x t ih =>
    obtain ⟨e, r⟩ := x
    simp only [Mon.exec, neverMon_step, traceNever, List.all_cons] at ih ⊢
    cases bad e <;> simp [ih]

def Mon.avoiding (M : Mon ε σ) (bad : ε → Bool) : Mon ε σ where
  step := fun s e r => if bad e then none else M.step s e r
  init := M.init

theorem Mon.avoiding_exec (M : Mon ε σ) (bad : ε → Bool) (t : Trace ε) (s : σ) :
    ((M.avoiding bad).exec t s).isSome = ((M.exec t s).isSome && traceNever bad t) := by
  fun_induction Mon.exec M t s with
  | case1 s => rfl
  | case2 e r t s h => simp [Mon.exec, Mon.avoiding, h]
  | case3 e r t s s' h ih =>
    simp only [Mon.exec, Mon.avoiding, traceNever, List.all_cons] at ih ⊢
    cases bad e <;> simp [h, ih]

/-- classification of events for the gating property: `verdict e r = some v` says the
event (effect `e` answered `r`) is a policy decision with verdict `v`; `guarded e` says
the effect needs a permit. -/
structure Gating (ε : Type) where
  verdict : ε → Bool → Option Bool
  guarded : ε → Bool

/-- the flag after an event: the most recent verdict of this thread -/
def Gating.next (G : Gating ε) (e : ε) (r : Bool) (g : Bool) : Bool :=
  match G.verdict e r with
  | some v => v
  | none => g

/-- the semantic property on one thread's trace: every guarded effect is performed while
the most recent policy verdict of the same thread is *permit* -/
def traceGated (G : Gating ε) : Trace ε → Bool → Bool
  | [], _ => true
  | (e, r) :: t, g => (!G.guarded e || g) && traceGated G t (G.next e r g)

/-- … for the thread and for every goroutine it started (a goroutine starts without a permit) -/
def outGated (G : Gating ε) (r : Out ε) (g : Bool) : Bool :=
  traceGated G r.main g && r.kids.all (fun t => traceGated G t false)

theorem outGated_iff {G : Gating ε} {r : Out ε} :
    outGated G r false = true ↔ ∀ t ∈ r.threads, traceGated G t false = true := by
  simp only [outGated, Out.threads, Bool.and_eq_true, List.all_eq_true, List.forall_mem_cons]

def gateMon (G : Gating ε) : Mon ε Bool where
  step := fun g e r => if G.guarded e && !g then none else some (G.next e r g)
  init := false

theorem gateMon_step (G : Gating ε) (g : Bool) (e : ε) (r : Bool) :
    (gateMon G).step g e r = if G.guarded e && !g then none else some (G.next e r g) := rfl

theorem gateMon_exec (G : Gating ε) (t : Trace ε) (g : Bool) :
    ((gateMon G).exec t g).isSome = traceGated G t g := by
  fun_induction traceGated G t g with
  | case1 g => rfl
  | case2 e r t g ih =>
    simp only [Mon.exec, gateMon_step]
    cases G.guarded e <;> cases g <;> simp [ih]

def gated (G : Gating ε) (p : Prog ε) (g : Bool) : Bool :=
  allPaths (gateMon G) p g

/-- gated, and no effect satisfying `bad`: one walk of the tree for both (the walk is what costs) -/
def gatedAvoiding (G : Gating ε) (bad : ε → Bool) (p : Prog ε) (g : Bool) : Bool :=
  allPaths ((gateMon G).avoiding bad) p g

theorem gatedAvoiding_sound (G : Gating ε) (bad : ε → Bool) (p : Prog ε) (g : Bool)
    (h : gatedAvoiding G bad p g = true) (o : Nat → Bool) (n : Nat) :
    outGated G (run p o n) g = true ∧ outNever bad (run p o n) = true := by
  obtain ⟨hm, hk⟩ := allPaths_sound _ p g h o n
  simp only [Mon.kidsOK, Mon.avoiding_exec, gateMon_exec, Bool.and_eq_true, List.all_eq_true] at hm hk
  simp only [outGated, outNever, Out.threads, List.all_cons, Bool.and_eq_true, List.all_eq_true]
  exact ⟨⟨hm.1, fun t ht => (hk t ht).1⟩, hm.2, fun t ht => (hk t ht).2⟩

/-- every run of a program that passes the check `gated` is gated, goroutines included -/
theorem gated_sound (G : Gating ε) (p : Prog ε) (g : Bool)
    (h : gated G p g = true) (o : Nat → Bool) (n : Nat) :
    outGated G (run p o n) g = true :=
  -- `gated` is `gatedAvoiding` with nothing to avoid: the two monitors unfold to the same
  (gatedAvoiding_sound G (fun _ => false) p g h o n).1

theorem traceGated_mono (G : Gating ε) (t : Trace ε) {g g' : Bool} (h : traceGated G t g = true)
    (hg : g = true → g' = true) : traceGated G t g' = true := by
  induction t generalizing g g' with
  | nil => rfl
  | cons x t ih =>
    simp only [traceGated, Bool.and_eq_true, Bool.or_eq_true] at h ⊢
    refine ⟨h.1.imp_right hg, ih h.2 ?_⟩
    unfold Gating.next
    split
    · exact id
    · exact hg

theorem traceGated_append (G : Gating ε) (t1 t2 : Trace ε) (g : Bool)
    (h1 : traceGated G t1 g = true) (h2 : traceGated G t2 false = true) :
    traceGated G (t1 ++ t2) g = true := by
  induction t1 generalizing g with
  | nil => exact traceGated_mono G t2 h2 nofun
  | cons x t ih =>
    simp only [List.cons_append, traceGated, Bool.and_eq_true] at h1 ⊢
    exact ⟨h1.1, ih _ h1.2⟩

/-- `x`, a verdict *deny*, may be replaced by any segment that is gated from `false` -/
theorem traceGated_splice (G : Gating ε) (t1 t2 seg : Trace ε) (x : ε × Bool) (g : Bool)
    (hx : G.verdict x.1 x.2 = some false)
    (h : traceGated G (t1 ++ x :: t2) g = true) (hs : traceGated G seg false = true) :
    traceGated G (t1 ++ seg ++ t2) g = true := by
  induction t1 generalizing g with
  | nil =>
    simp only [List.nil_append, traceGated, Gating.next, hx, Bool.and_eq_true] at h
    exact traceGated_append G seg t2 g (traceGated_mono G seg hs nofun) h.2
  | cons y t ih =>
    simp only [List.cons_append, traceGated, Bool.and_eq_true] at h ⊢
    exact ⟨h.1, ih _ h.2⟩

/-- `pre` contains a verdict *permit* after which it contains no further verdict -/
def PermitBefore (G : Gating ε) (pre : Trace ε) : Prop :=
  ∃ a x b, pre = a ++ x :: b ∧ G.verdict x.1 x.2 = some true ∧ ∀ y ∈ b, G.verdict y.1 y.2 = none

/-- the declarative reading of `traceGated`: wherever the trace splits as `pre ++ (e, r) :: post` with `e`
guarded, a permit is in force at the end of `pre`: one given in `pre`, or the initial flag with no verdict since -/
theorem traceGated_spec (G : Gating ε) (pre post : Trace ε) (e : ε) (r g : Bool)
    (h : traceGated G (pre ++ (e, r) :: post) g = true) (hg : G.guarded e = true) :
    PermitBefore G pre ∨ (g = true ∧ ∀ y ∈ pre, G.verdict y.1 y.2 = none) := by
  induction pre generalizing g with
  | nil =>
    simp only [List.nil_append, traceGated, hg, Bool.not_true, Bool.and_eq_true] at h
    exact Or.inr ⟨h.1, by simp⟩
  | cons x pre ih =>
    obtain ⟨e0, r0⟩ := x
    simp only [List.cons_append, traceGated, Bool.and_eq_true] at h
    rcases ih _ h.2 with ⟨a, y, b, hab, hy, hb⟩ | ⟨hn, hall⟩
    · exact Or.inl ⟨(e0, r0) :: a, y, b, by simp [hab], hy, hb⟩
    · -- no verdict in `pre` and the flag after `(e0, r0)` is set: by `(e0, r0)` itself, or before it
      unfold Gating.next at hn
      split at hn
      · next hv =>
        subst hn
        exact Or.inl ⟨[], (e0, r0), pre, by simp, hv, hall⟩
      · next hv => exact Or.inr ⟨hn, List.forall_mem_cons.2 ⟨hv, hall⟩⟩

end CM.Prog
