import CM.Lib.Skel
/-
Structural predicates over action skeletons (CM.Skel.Sk) used by the handshake properties
(C02: gate domination; C13: single-flight discipline). Stage one (DESIGN 2.1-L4): the
predicates are hand-written, decidable, and say exactly what the models rely on; they do
not compare skeletons with recorded ones.

Every walker returns `Option (Option σ)`:
  `none`            the fact does not hold on some path,
  `some none`       every path through the block leaves the function,
  `some (some s)`   the block can complete normally, in state `s`.
-/
namespace CM.SkelHS
open CM.Skel

/-! string tests on character lists (kernel-reducible, so that the tie theorems are `decide`) -/
def sw (p n : String) : Bool := p.toList.isPrefixOf n.toList
def ew (p n : String) : Bool := p.toList.isSuffixOf n.toList
def isCat (n a b : String) : Bool := n.toList == a.toList ++ b.toList
def infixOfL : List Char → List Char → Bool
  | p, [] => p.isEmpty
  | p, c :: rest => p.isPrefixOf (c :: rest) || infixOfL p rest
def hasInfix (p n : String) : Bool := infixOfL p.toList n.toList

/-- does the block contain a `return` (of the enclosing function literal)? -/
def hasRet : Sk → Bool
  | .ret => true
  | .seq a b => hasRet a || hasRet b
  | .br _ a b => hasRet a || hasRet b
  | .loop a => hasRet a
  | .acq f => hasRet f
  | _ => false

/-- does the block close a channel? -/
def closes : Sk → Bool
  | .act n => sw "close:" n
  | .seq a b => closes a || closes b
  | .br _ a b => closes a || closes b
  | .loop a => closes a
  | .fn a => closes a
  | _ => false

/-! ### gate domination (C02)

State: 0 = no permit, 1 = the gate was just called and its result not yet tested,
2 = the gate's error branch has been left behind. A critical action needs state 2. -/

def joinG (a b : Nat) : Nat := if a = 2 ∧ b = 2 then 2 else 0

def gateDom (gate : String) (crit : List String) : Sk → Nat → Option (Option Nat)
  | .act n, s =>
      if crit.contains n then (if s = 2 then some (some 2) else none)
      else if n = gate then some (some 1)
      else some (some (if s = 1 then 0 else s))
  | .ret, _ => some none
  | .pnc, _ => some none
  | .skip, s => some (some s)
  | .seq a b, s =>
      match gateDom gate crit a s with
      | none => none
      | some none => some none
      | some (some s') => gateDom gate crit b s'
  | .br c a b, s =>
      let sa := if s = 1 then 0 else s
      let sb := if s = 1 then (if c = "err != nil" then 2 else 0) else s
      match gateDom gate crit a sa, gateDom gate crit b sb with
      | none, _ => none
      | _, none => none
      | some none, r => r
      | r, some none => r
      | some (some x), some (some y) => some (some (joinG x y))
  | .loop a, s =>
      match gateDom gate crit a (if s = 1 then 0 else s) with
      | none => none
      | some none => some (some (if s = 1 then 0 else s))
      | some (some x) => some (some (joinG (if s = 1 then 0 else s) x))
  | .dfr a, s => match gateDom gate crit a 0 with
      | none => none
      | _ => some (some s)
  | .spawn a, s => match gateDom gate crit a 0 with
      | none => none
      | _ => some (some s)
  | .fn a, s => match gateDom gate crit a s with
      | none => none
      | some none => some (some 0)
      | some (some x) => some (some (if hasRet a then 0 else x))
  | .acq f, s => match gateDom gate crit f 0 with
      | none => none
      | _ => some (some (if s = 1 then 0 else s))

/-- every path to a critical action passes the gate and leaves its error branch -/
def gate_before_issuing_action (gate : String) (crit : List String) (sk : Sk) : Bool :=
  (gateDom gate crit sk 0).isSome

/-- the critical actions do occur (the fact is not vacuous) -/
def mentions (names : List String) (sk : Sk) : Bool :=
  names.all (fun n => (acts sk).contains n)

/-! ### single-flight discipline (C13) -/

/-- state of the mutex walker: is `mu` held; inside the current critical section: was the
map read, was a channel closed, was the map entry deleted -/
structure CS where
  held : Bool
  read : Bool
  closed : Bool
  deleted : Bool
  deriving DecidableEq, Repr

def CS.idle : CS := ⟨false, false, false, false⟩

def joinCS (a b : Option (Option CS)) : Option (Option CS) :=
  match a, b with
  | none, _ => none
  | _, none => none
  | some none, r => r
  | r, some none => r
  | some (some x), some (some y) => if x = y then some (some x) else none

/-- actions that may block or yield: channel operations, timers, calls into the package
(storage, issuer, policy), calls of local closures, other locks -/
def blockingAct (n : String) : Bool :=
  sw "recv:" n || sw "send:" n || sw "cfg." n || sw "time." n ||
  sw "call:" n || ew ".Lock" n || ew ".RLock" n || ew ".Wait" n

/-- accesses of map `m` and closes only under `mu`; the registration reads and inserts in ONE
critical section; a close and the delete of the entry lie in ONE critical section; nothing
that may block or yield is done while `mu` is held; the function is never left with `mu` held -/
def csWalk (mu m : String) : Sk → CS → Option (Option CS)
  | .act n, s =>
      if isCat n mu ".Lock" then (if s.held then none else some (some ⟨true, false, false, false⟩))
      else if isCat n mu ".Unlock" then
        (if s.held && (s.closed == s.deleted) then some (some CS.idle) else none)
      else if isCat n "mapread:" m then (if s.held then some (some { s with read := true }) else none)
      else if isCat n "mapwrite:" m then (if s.held && s.read then some (some s) else none)
      else if isCat n "mapdelete:" m then (if s.held then some (some { s with deleted := true }) else none)
      else if sw "close:" n then (if s.held then some (some { s with closed := true }) else none)
      else (if s.held && blockingAct n then none else some (some s))
  | .ret, s => if s.held then none else some none
  | .pnc, _ => some none
  | .skip, s => some (some s)
  | .seq a b, s =>
      match csWalk mu m a s with
      | none => none
      | some none => some none
      | some (some s') => csWalk mu m b s'
  | .br _ a b, s => joinCS (csWalk mu m a s) (csWalk mu m b s)
  | .loop a, s => joinCS (csWalk mu m a s) (some (some s))
  | .dfr a, s => match csWalk mu m a CS.idle with
      | some (some x) => if x = CS.idle then some (some s) else none
      | _ => none
  | .spawn a, s => match csWalk mu m a CS.idle with
      | none => none
      | some none => if s.held then none else some (some s)
      | some (some x) => if x = CS.idle && !s.held then some (some s) else none
  | .fn a, s => match csWalk mu m a s with
      | none => none
      | some none => some (some CS.idle)
      | some (some x) => if hasRet a then (if x = CS.idle then some (some x) else none) else some (some x)
  | .acq f, s => if s.held then none else joinCS (csWalk mu m f s) (some (some s))

def single_flight_cs (mu m : String) (sk : Sk) : Bool :=
  match csWalk mu m sk CS.idle with
  | none => false
  | some none => true
  | some (some x) => x = CS.idle

/-- after the registration (`mapwrite:m`) the thread owes an unblock (a `close`); a deferred
block that closes covers it; a goroutine may take the debt over. `true` = owed. -/
def owedWalk (m : String) : Sk → Bool → Option (Option Bool)
  | .act n, s =>
      if isCat n "mapwrite:" m then some (some true)
      else if sw "close:" n then some (some false)
      else some (some s)
  | .ret, s => if s then none else some none
  | .pnc, _ => some none
  | .skip, s => some (some s)
  | .seq a b, s =>
      match owedWalk m a s with
      | none => none
      | some none => some none
      | some (some s') => owedWalk m b s'
  | .br _ a b, s =>
      match owedWalk m a s, owedWalk m b s with
      | none, _ => none
      | _, none => none
      | some none, r => r
      | r, some none => r
      | some (some x), some (some y) => some (some (x || y))
  | .loop a, s => match owedWalk m a s with
      | none => none
      | some none => some (some s)
      | some (some x) => some (some (x || s))
  | .dfr a, s => if closes a then some (some false) else some (some s)
  | .spawn a, s => match owedWalk m a s with
      | none => none
      | some none => some (some false)
      | some (some x) => if x then none else some (some false)
  | .fn a, s => match owedWalk m a s with
      | none => none
      | some none => some (some false)
      | some (some x) => some (some x)
  | .acq f, s => match owedWalk m f s with
      | none => none
      | _ => some (some s)

/-- unblock is reached on every path after the registration (panics apart) -/
def unblock_on_every_path (m : String) (sk : Sk) : Bool :=
  match owedWalk m sk false with
  | none => false
  | some none => true
  | some (some x) => !x

def isTimerArm (l : String) : Bool :=
  sw "select <-" l && (ew ".C" l || hasInfix "time.After(" l)

def isRecvArm (l : String) : Bool := sw "select <-" l

/-- labels of a select chain `br "select a" _ (br "select b" _ …)` -/
def selChain : Sk → List String
  | .br c _ b => if sw "select " c then c :: selChain b else []
  | _ => []

/-- every `select` that waits (has a receive arm) has a time-out arm -/
def selectOK : Sk → Bool → Bool
  | .br c a b, inChain =>
      if sw "select " c then
        (inChain || !((c :: selChain b).any isRecvArm) || (c :: selChain b).any isTimerArm) &&
          selectOK a false && selectOK b true
      else selectOK a false && selectOK b false
  | .seq a b, _ => selectOK a false && selectOK b false
  | .loop a, _ => selectOK a false
  | .dfr a, _ => selectOK a false
  | .spawn a, _ => selectOK a false
  | .fn a, _ => selectOK a false
  | .acq f, _ => selectOK f false
  | _, _ => true

def select_has_timeout_arm (sk : Sk) : Bool := selectOK sk false

/-- the critical section of `mu` has a way out that consists of the unlock alone (neither a
wait nor a registration follows inside the branch): the D9 repair's "this channel is mine" -/
def hasBareUnlockBranch (mu : String) : Sk → Bool
  | .br _ a b =>
      (match a with | .act n => isCat n mu ".Unlock" | _ => false) || hasBareUnlockBranch mu a || hasBareUnlockBranch mu b
  | .seq a b => hasBareUnlockBranch mu a || hasBareUnlockBranch mu b
  | .loop a => hasBareUnlockBranch mu a
  | .fn a => hasBareUnlockBranch mu a
  | _ => false

/-- number of selects with a receive arm (non-vacuity of `select_has_timeout_arm`) -/
def countWaits : Sk → Bool → Nat
  | .br c a b, inChain =>
      if sw "select " c then
        (if !inChain && (c :: selChain b).any isRecvArm then 1 else 0) + countWaits a false + countWaits b true
      else countWaits a false + countWaits b false
  | .seq a b, _ => countWaits a false + countWaits b false
  | .loop a, _ => countWaits a false
  | .dfr a, _ => countWaits a false
  | .spawn a, _ => countWaits a false
  | .fn a, _ => countWaits a false
  | .acq f, _ => countWaits f false
  | _, _ => 0

end CM.SkelHS
