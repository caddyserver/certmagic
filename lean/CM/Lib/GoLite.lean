/-
GoLite: the target language of the function translator (`go/extract/fn.go`).

The translator turns the BODY of a pure Go function of /repo (a subset: `:=`/`=` on locals,
tuple assignment, `s[i] = e` on the ranged slice, `if`/`else`, `for i[, v] := range xs` and
`for i := 0; i < n; i++` with `continue`, `break` and early `return`, `make([]T, n)`, field access
through a pointer that may be nil, calls of a white-listed part of packages `strings` and `time`,
`len`, the comparison and boolean operators) into a Lean definition over the functions below,
statement by statement (shallow embedding): a local variable is a `let`, an `if` whose branch
returns is an `if … then … else <rest>`, a loop is `forN` (`forB` if it contains `break`) over a
state tuple holding the variables the body assigns, `continue` is `.next state`, `break` is
`.brk state`, `return e` inside a loop is `.ret e`.

Everything here is core Lean, total and executable, so the compiled driver can run the GENERATED
definitions beside the hand-written models on every line of the differential (which is what
validates this file and the translator — they are trusted for the theorems, checked by execution).

What is modelled, not verified: Go strings are UTF-8 byte sequences, here lists of code points
(`len` counts UTF-8 bytes); `strings.ToLower` is modelled on ASCII only (every theorem about a
generated function that lower-cases is stated with `strings_ToLower` as it stands here, so it is the
correspondence run, on names with non-ASCII capitals, that would notice a difference);
`strings.Split` only with a one-character separator (the translator refuses anything else).
-/
namespace CM.Go

abbrev Str := List Char

/-- string literal -/
def s (x : String) : Str := x.toList

/-- result of one loop iteration: go on with a new state, or return from the function -/
inductive Step (σ ρ : Type) where
  | next (st : σ)
  | ret (v : ρ)

/-- `for i[, v] := range <n elements>` and `for i := 0; i < n; i++`, when the body has no `break` of its
own: `body i state` for `i = start, start+1, …` (`n` iterations), until one of them returns. The range
expression is evaluated once, and the translator refuses a bound assigned in the body: `n` is fixed. -/
def forN {σ ρ : Type} (body : Int → σ → Step σ ρ) : (n start : Nat) → σ → Step σ ρ
  | 0, _, st => .next st
  | n + 1, i, st =>
    match body (Int.ofNat i) st with
    | .next st' => forN body n (i + 1) st'
    | .ret v => .ret v

/-- `xs[i]` — only emitted for the index variable of the enclosing `range xs` (in bounds) -/
def idx {α : Type} [Inhabited α] (xs : List α) (i : Int) : α := xs.getD i.toNat default

/-- `*p` / `p.f` through a pointer that may be nil (only emitted where the source dereferences) -/
def deref {α : Type} [Inhabited α] (p : Option α) : α := p.getD default

/-- `xs[i] = v` — same restriction -/
def set {α : Type} (xs : List α) (i : Int) (v : α) : List α := xs.set i.toNat v

/-- one iteration of a loop that contains `break` -/
inductive Step3 (σ ρ : Type) where
  | next (st : σ)
  | brk (st : σ)
  | ret (v : ρ)

/-- either loop form when the body contains a `break` of its own: like `forN`; `break` leaves the loop
with the state it carries and the function goes on after the loop -/
def forB {σ ρ : Type} (body : Int → σ → Step3 σ ρ) : (n start : Nat) → σ → Step σ ρ
  | 0, _, st => .next st
  | n + 1, i, st =>
    match body (Int.ofNat i) st with
    | .next st' => forB body n (i + 1) st'
    | .brk st' => .next st'
    | .ret v => .ret v

/-- `len(xs)` of a slice -/
def lenL {α : Type} (xs : List α) : Int := Int.ofNat xs.length

/-- `make([]T, n)`: `n` zero values -/
def make {α : Type} [Inhabited α] (n : Int) : List α := List.replicate n.toNat default

/-! ### package `time`

A `time.Time` is the number of nanoseconds since the ZERO time (January 1, year 1 UTC), so the zero value
is `0` = `default` and every real instant is positive; a `time.Duration` is an `Int` of nanoseconds.
`Sub` saturates like Go's (±2^63 ns); the monotonic clock reading is not modelled. -/

abbrev Time := Int   -- (the functions below are stated on `Int` so that `omega` sees their arithmetic)

def maxDuration : Int := 9223372036854775807
def minDuration : Int := -9223372036854775808

def time_IsZero (t : Int) : Bool := t == 0
def time_Before (a b : Int) : Bool := decide (a < b)
def time_After (a b : Int) : Bool := decide (a > b)
def time_Equal (a b : Int) : Bool := a == b
def time_Add (t : Int) (d : Int) : Int := t + d
/-- `t.Truncate(d)`: down to a multiple of `d` since the zero time (`d ≤ 0`: unchanged) -/
def time_Truncate (t : Int) (d : Int) : Int := if d ≤ 0 then t else t - t % d
def time_Sub (a b : Int) : Int :=
  if a - b > maxDuration then maxDuration else if a - b < minDuration then minDuration else a - b

def lowerASCII (c : Char) : Char := if 'A' ≤ c ∧ c ≤ 'Z' then Char.ofNat (c.toNat + 32) else c

def strings_ToLower (x : Str) : Str := x.map lowerASCII

/-- `unicode.IsSpace` -/
def isSpace (c : Char) : Bool :=
  let n := c.toNat
  n = 9 || n = 10 || n = 11 || n = 12 || n = 13 || n = 32 || n = 0x85 || n = 0xA0 || n = 0x1680 ||
  (decide (0x2000 ≤ n) && decide (n ≤ 0x200a)) || n = 0x2028 || n = 0x2029 || n = 0x202f || n = 0x205f || n = 0x3000

def strings_TrimSpace (x : Str) : Str := ((x.dropWhile isSpace).reverse.dropWhile isSpace).reverse

def strings_HasPrefix (x p : Str) : Bool := p.isPrefixOf x

def strings_HasSuffix (x p : Str) : Bool := p.isSuffixOf x

def strings_TrimSuffix (x suf : Str) : Str :=
  if suf.isSuffixOf x then x.take (x.length - suf.length) else x

def strings_Contains : Str → Str → Bool
  | [], sub => sub.isEmpty
  | c :: r, sub => sub.isPrefixOf (c :: r) || strings_Contains r sub

def strings_ContainsAny (x chars : Str) : Bool := x.any (fun c => chars.contains c)

/-- `strings.Split(x, string(sep))` for a one-character separator -/
def strings_Split1 (sep : Char) : Str → List Str
  | [] => [[]]
  | c :: r =>
    if c = sep then [] :: strings_Split1 sep r
    else match strings_Split1 sep r with
      | [] => [[c]]
      | l :: ls => (c :: l) :: ls

def strings_Join : List Str → Str → Str
  | [], _ => []
  | l :: r, sep => match r with
    | [] => l
    | _ :: _ => l ++ sep ++ strings_Join r sep

/-- `strings.Count(x, sub)` for non-empty `sub` of one character -/
def strings_Count1 (x : Str) (c : Char) : Int := Int.ofNat (x.filter (· == c)).length

class Len (α : Type) where
  /-- value of `len(x)`; also printed as the number of iterations of `range x`, which is right for a
  slice only: over a string Go's `range` steps by rune and this counts UTF-8 bytes. No translated
  function ranges over a string (`go/extract/fn.go` does not test for it). -/
  lenN : α → Nat

instance : Len (List Char) := ⟨fun x => x.foldl (fun n c => n + c.utf8Size) 0⟩
instance : Len (List (List Char)) := ⟨List.length⟩

def len {α : Type} [Len α] (x : α) : Int := Int.ofNat (Len.lenN x)

theorem idx_append_length {α : Type} [Inhabited α] (pre : List α) (x : α) (rest : List α) :
    idx (pre ++ x :: rest) (Int.ofNat pre.length) = x := by
  simp [idx]

theorem set_append_length {α : Type} (pre : List α) (x y : α) (rest : List α) :
    set (pre ++ x :: rest) (Int.ofNat pre.length) y = pre ++ y :: rest := by
  simp [set]

theorem strings_Contains_single (x : Str) (c : Char) : strings_Contains x [c] = x.contains c := by
  induction x with
  | nil => rfl
  | cons a r ih =>
    rw [strings_Contains, ih, List.contains_cons]
    simp [List.isPrefixOf]

end CM.Go
