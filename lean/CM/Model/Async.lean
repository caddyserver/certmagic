/-
C19 — models of the background machinery of certmagic (async.go, acmeissuer.go), written
after the code (async.go after the `fix:` commits "return the last error when doWithRetry gives
up" and D15, which releases a panicking job's name and keeps its worker alive).

(a) `retry`  — `doWithRetry` (async.go):

      var attempts int; ctx = WithValue(ctx, AttemptsCtxKey, &attempts)
      start, intervalIndex := time.Now(), -1
      for time.Since(start) < maxRetryDuration {
          var wait time.Duration
          if intervalIndex >= 0 { wait = retryIntervals[intervalIndex] }
          timer := time.NewTimer(wait)
          select {
          case <-ctx.Done():  timer.Stop(); return context.Canceled
          case <-timer.C:
              err = f(ctx); attempts++
              if err == nil || errors.Is(err, context.Canceled) { return err }
              if errors.As(err, &ErrNoRetry{}) { return err }
              if intervalIndex < len(retryIntervals)-1 { intervalIndex++ }
              if time.Since(start) < maxRetryDuration { log "will retry" }
              else { log "final attempt; giving up"; return err }
          }
      }
      return err

    All instants are `Nat` nanoseconds since `start`. The outcome and the duration of the
    k-th call of `f` are inputs (`script k`), as are the instant at which the context is
    cancelled and the resolution of a `select` in which the timer and the cancellation are
    ready at the same instant (`tie k`; Go chooses pseudo-randomly). Time passes only in
    the timer wait and inside `f`, so the `for` condition is evaluated at the instant of
    the preceding in-loop test and always agrees with it (the trailing `return err` is not
    reachable on this clock). The loop is a structural recursion on fuel; `C19_gives_up`
    proves that the fuel `maxDur + 2` is never exhausted for a positive table.

(b) job manager — `jobManager.Submit` / `worker` / `runJob` as a labelled transition system.

(c) `issue` — which ACME directory `ACMEIssuer.Issue`/`doIssue`/`newACMEClient` use, when
    the internal throttle applies, which certificate is returned and how errors are classed.

Core Lean only.
-/
namespace CM.Async

/-! ## (a) doWithRetry -/

def minute : Nat := 60000000000
def hour : Nat := 60 * minute

/-- `retryIntervals` (ns). `CM.Tie.C19.C19_table_tie`: equal to the table regenerated from
async.go on every run. -/
def table : List Nat :=
  [1 * minute, 2 * minute, 2 * minute, 5 * minute, 10 * minute, 10 * minute, 10 * minute,
   20 * minute, 20 * minute, 20 * minute, 20 * minute,
   30 * minute, 30 * minute, 30 * minute, 30 * minute, 30 * minute, 30 * minute,
   1 * hour, 1 * hour, 1 * hour, 2 * hour, 2 * hour, 3 * hour, 3 * hour, 6 * hour]

/-- `maxRetryDuration` = 30 days (ns) -/
def maxDur : Nat := 24 * hour * 30

/-- what one call of `f` returns: nil / a plain error / an error wrapping `ErrNoRetry` /
an error that `Is(context.Canceled)` -/
inductive Outcome | ok | fail | noRetry | canceledErr
  deriving DecidableEq, Repr

structure Att where
  out : Outcome
  dur : Nat          -- (virtual) time the call itself takes
  deriving Repr

structure RetryIn where
  script   : Nat → Att          -- the k-th call of `f` (k = 0, 1, …)
  cancelAt : Option Nat         -- instant at which ctx is cancelled (none: never)
  tie      : Nat → Bool         -- `select` before attempt k with both cases ready: does cancellation win?

/-- what `doWithRetry` returns: nil after success / the last attempt's (plain) error after giving
up — since the `fix:` commit "return the last error when doWithRetry gives up" / `context.Canceled`
from the select / f's cancellation error / f's non-retryable error; `outOfFuel` is the model's own
(the recursion ran out of fuel) and never the result for a positive table (`C19_gives_up`) -/
inductive Res | ok | gaveUpErr | canceled | canceledErr | noRetry | outOfFuel
  deriving DecidableEq, Repr

structure RetryOut where
  trace : List (Nat × Nat)      -- (value of the attempts counter seen by f, start instant)
  res   : Res
  ret   : Nat                   -- instant of return
  deriving Repr

/-- `wait` of one iteration: 0 while `intervalIndex = -1` (`none`), else the table entry -/
def waitOf (tbl : List Nat) : Option Nat → Nat
  | none => 0
  | some i => tbl.getD i 0

/-- `if intervalIndex < len(retryIntervals)-1 { intervalIndex++ }` -/
def nextIdx (tbl : List Nat) : Option Nat → Option Nat
  | none => if 0 < tbl.length then some 0 else none
  | some i => if i + 1 < tbl.length then some (i + 1) else some i

/-- the `select` entered at `now` with the timer due at `T ≥ now`: `some ci` if the
cancellation case is taken (at instant `ci`), `none` if the timer case is taken (at `T`) -/
def cancelWins (i : RetryIn) (k now T : Nat) : Option Nat :=
  match i.cancelAt with
  | none => none
  | some c =>
    let ci := max c now
    if ci < T then some ci
    else if ci = T ∧ i.tie k = true then some ci
    else none

/-- one iteration of the loop -/
inductive StepR
  | cancel (ci : Nat)                 -- returned `context.Canceled` at `ci`
  | final (T E : Nat) (r : Res)       -- attempt from `T` to `E`, then return `r`
  | more (T E : Nat)                  -- attempt from `T` to `E` failed; loop again
  deriving Repr

def stepR (tbl : List Nat) (mx : Nat) (i : RetryIn) (k : Nat) (idx : Option Nat) (now : Nat) : StepR :=
  let T := now + waitOf tbl idx
  match cancelWins i k now T with
  | some ci => .cancel ci
  | none =>
    let E := T + (i.script k).dur
    match (i.script k).out with
    | .ok => .final T E .ok
    | .canceledErr => .final T E .canceledErr
    | .noRetry => .final T E .noRetry
    | .fail => if E < mx then .more T E else .final T E .gaveUpErr

/-- the loop: `k` = attempts counter, `idx` = intervalIndex, `now` = time since start -/
def loop (tbl : List Nat) (mx : Nat) (i : RetryIn) : Nat → Nat → Option Nat → Nat → RetryOut
  | 0, _, _, now => { trace := [], res := .outOfFuel, ret := now }
  | fuel + 1, k, idx, now =>
    match stepR tbl mx i k idx now with
    | .cancel ci => { trace := [], res := .canceled, ret := ci }
    | .final T E r => { trace := [(k, T)], res := r, ret := E }
    | .more T E =>
      let o := loop tbl mx i fuel (k + 1) (nextIdx tbl idx) E
      { trace := (k, T) :: o.trace, res := o.res, ret := o.ret }

/-- `doWithRetry` for a given table and maximum duration -/
def retryWith (tbl : List Nat) (mx : Nat) (i : RetryIn) : RetryOut :=
  loop tbl mx i (mx + 2) 0 none 0

/-- `doWithRetry` with the constants of async.go -/
def retry (i : RetryIn) : RetryOut := retryWith table maxDur i

/-- instant at which the last attempt of a trace ended (0 if there was none) -/
def lastEnd (i : RetryIn) (tr : List (Nat × Nat)) : Nat :=
  match tr.getLast? with
  | none => 0
  | some (n, t) => t + (i.script n).dur

/-- the table is usable: non-empty and every entry positive -/
def Positive (tbl : List Nat) : Prop := tbl ≠ [] ∧ ∀ x ∈ tbl, 0 < x

/-! ### executable specification of a retry run

What C19 demands of *any* observed run of the retry loop, given the script of attempt outcomes
and the cancellation instant — used by the driver to judge the implementation's traces
(independently of the model's output); `C19_spec_accepts_model` shows it is implied by the
theorems on the model's own runs. `none` = accepted, `some reason` = rejected. -/

def afterCancel (cancel : Option Nat) (t : Nat) : Bool :=
  match cancel with
  | some c => decide (c < t)
  | none => false

/-- the attempts: numbers p, p+1, …; nothing started after the cancellation; an attempt that is
followed by another one failed retryably; the pause before the next attempt is at least a
minute and exactly the documented table entry; no pause begins once `maxDur` has elapsed -/
def specGo (sc : Nat → Att) (cancel : Option Nat) : Nat → List (Nat × Nat) → Option String
  | _, [] => none
  | p, (n, t) :: rest =>
    if n ≠ p then some "attempt-number"
    else if afterCancel cancel t = true then some "attempt-after-cancel"
    else match rest with
      | [] => none
      | (_, t') :: _ =>
        let e := t + (sc p).dur
        if (sc p).out ≠ .fail then some "attempt-after-terminal"
        else if t' < e + minute then some "retry-too-soon"
        else if t' ≠ e + table.getD (min p (table.length - 1)) 0 then some "off-schedule"
        else if maxDur ≤ e then some "retry-after-max-duration"
        else specGo sc cancel (p + 1) rest

def specAttempts (sc : Nat → Att) (cancel : Option Nat) (tr : List (Nat × Nat)) : Option String :=
  specGo sc cancel 0 tr

/-- the end: a cancelled run returns at the cancellation instant (or when the attempt then in
progress ends); any other run returns when its last attempt ends, with the result that attempt's
outcome dictates; giving up — with that attempt's error, never nil — only after `maxDur` -/
def specEnd (sc : Nat → Att) (cancel : Option Nat) (tr : List (Nat × Nat)) (res : Res) (ret : Nat) : Option String :=
  let le := lastEnd { script := sc, cancelAt := cancel, tie := fun _ => false } tr
  match res with
  | .outOfFuel => some "no-result"
  | .canceled =>
    match cancel with
    | none => some "spurious-cancel"
    | some c => if ret = max c le then none else some "late-return-after-cancel"
  | r =>
    match tr.getLast? with
    | none => some "no-attempt"
    | some (n, _) =>
      if ret ≠ le then some "return-instant"
      else match (sc n).out, r with
        | .ok, .ok => none
        | .noRetry, .noRetry => none
        | .canceledErr, .canceledErr => none
        | .fail, .gaveUpErr => if maxDur ≤ le then none else some "gave-up-early"
        | .fail, .ok => some "failure-reported-as-success"
        | .fail, _ => some "stopped-retrying"
        | _, _ => some "result"

/-! ## (b) the job manager -/

structure Job where
  id   : Nat
  name : String
  deriving DecidableEq, Repr

/-- state of one worker goroutine: not started or exited / about to look at the queue
(between jobs, before `jm.mu.Lock()`) / inside `next.job()` / job over (returned, failed or
panicked) and its name not yet released (inside `runJob`'s deferred function) -/
inductive WS
  | off
  | idle
  | running (j : Job)
  | finishing (j : Job)
  deriving DecidableEq, Repr

structure JM where
  queue  : List Job            -- jm.queue
  names  : String → Bool       -- jm.names (as a characteristic function)
  active : Nat                 -- jm.activeWorkers
  maxW   : Nat                 -- jm.maxConcurrentJobs
  nextW  : Nat                 -- number of worker goroutines started so far
  ws     : Nat → WS            -- state of the w-th worker goroutine ever started

inductive Ev
  | submit (id : Nat) (name : String)   -- `jm.Submit(logger, name, job)` (one critical section)
  | take (w : Nat)                      -- worker w finds the queue non-empty and dequeues its head
  | workerExit (w : Nat)                -- worker w finds the queue empty: activeWorkers--, return
  | jobReturn (w : Nat) (ok : Bool)     -- the job of worker w returns nil / an error
  | jobPanic (w : Nat)                  -- the job of worker w panics (recovered in runJob)
  | release (w : Nat)                   -- runJob's deferred function deletes the job's name
  deriving DecidableEq, Repr

def upd {α : Type} (f : Nat → α) (w : Nat) (v : α) : Nat → α := fun x => if x = w then v else f x

def setName (f : String → Bool) (n : String) (b : Bool) : String → Bool :=
  fun x => if x = n then b else f x

def init (m : Nat) : JM :=
  { queue := [], names := fun _ => false, active := 0, maxW := m, nextW := 0, ws := fun _ => .off }

def step (s : JM) : Ev → Option JM
  | .submit id name =>
    if name ≠ "" ∧ s.names name = true then some s        -- duplicate: no-op
    else
      let names := if name = "" then s.names else setName s.names name true
      let q := s.queue ++ [{ id := id, name := name }]
      if s.active < s.maxW then
        some { s with queue := q, names := names, active := s.active + 1
                      nextW := s.nextW + 1, ws := upd s.ws s.nextW .idle }
      else some { s with queue := q, names := names }
  | .take w =>
    match s.ws w, s.queue with
    | .idle, j :: rest => some { s with queue := rest, ws := upd s.ws w (.running j) }
    | _, _ => none
  | .workerExit w =>
    match s.ws w, s.queue with
    | .idle, [] => some { s with active := s.active - 1, ws := upd s.ws w .off }
    | _, _ => none
  | .jobReturn w _ =>
    match s.ws w with
    | .running j => some { s with ws := upd s.ws w (.finishing j) }
    | _ => none
  | .jobPanic w =>
    match s.ws w with
    | .running j => some { s with ws := upd s.ws w (.finishing j) }
    | _ => none
  | .release w =>
    match s.ws w with
    | .finishing j =>
      some { s with names := if j.name = "" then s.names else setName s.names j.name false
                    ws := upd s.ws w .idle }
    | _ => none

def run (s : JM) : List Ev → Option JM
  | [] => some s
  | e :: es => match step s e with
    | none => none
    | some s' => run s' es

inductive Reachable (m : Nat) : JM → Prop
  | init : Reachable m (init m)
  | step {s s' : JM} (e : Ev) : Reachable m s → step s e = some s' → Reachable m s'

/-- sum of a weight over the workers `0 … n-1` -/
def sumW (g : WS → Nat) (f : Nat → WS) : Nat → Nat
  | 0 => 0
  | n + 1 => sumW g f n + g (f n)

def aliveW : WS → Nat
  | .off => 0
  | _ => 1

/-- does this worker hold (run, or not yet have released) a job named `n`? -/
def holdsW (n : String) : WS → Nat
  | .running j => if j.name = n then 1 else 0
  | .finishing j => if j.name = n then 1 else 0
  | _ => 0

/-- number of jobs named `n` that are queued, running, or finished but not yet released -/
def occ (s : JM) (n : String) : Nat :=
  s.queue.countP (fun j => j.name = n) + sumW (holdsW n) s.ws s.nextW

/-- worker steps still owed by a worker before it looks at the queue again -/
def workW : WS → Nat
  | .running _ => 2
  | .finishing _ => 1
  | _ => 0

/-- bound on the worker events that can occur before the job at queue position `p` is taken -/
def mu (s : JM) (p : Nat) : Nat := 3 * p + sumW workW s.ws s.nextW

def Ev.isWorker : Ev → Bool
  | .submit _ _ => false
  | _ => true

def workerEvents (es : List Ev) : Nat := es.countP Ev.isWorker

/-- the jobs dequeued by the `take` events of a run, in order -/
def takenJobs : JM → List Ev → List Job
  | _, [] => []
  | s, e :: es =>
    match step s e with
    | none => []
    | some s' =>
      (match e, s.queue with
        | .take _, j :: _ => [j]
        | _, _ => []) ++ takenJobs s' es

/-! ## (c) which CA `ACMEIssuer.Issue` talks to -/

/-- does the URL contain "://" ? (`strings.Contains(caURL, "://")`) -/
def hasScheme : List Char → Bool
  | [] => false
  | c :: r => (c :: r).take 3 = [':', '/', '/'] || hasScheme r

/-- outcome of one `doIssue` call: a certificate / an error that is not an ACME problem with
status 429 / an `acme.Problem` with status 429 -/
inductive DOut | ok | err | rateLimited
  deriving DecidableEq, Repr

structure IssueIn where
  attempts  : Nat          -- *ctx.Value(AttemptsCtxKey)
  ca        : String       -- am.CA
  testCA    : String       -- am.TestCA
  defaultCA : String       -- DefaultACME.CA
  first     : DOut         -- outcome of the first doIssue call
  second    : DOut         -- outcome of the second one (if it happens)

/-- `newBasicACMEClient`: the production directory URL -/
def prodDir (i : IssueIn) : String :=
  let u := if i.ca = "" then i.defaultCA else i.ca
  if hasScheme u.toList then u else "https://" ++ u

/-- `newACMEClient(useTestCA)`: the directory of the client -/
def directory (i : IssueIn) (useTestCA : Bool) : String :=
  if useTestCA = true ∧ i.testCA ≠ "" then i.testCA else prodDir i

/-- `acmeClient.usingTestCA` -/
def usingTestCA (i : IssueIn) (dir : String) : Bool :=
  decide (i.testCA ≠ "" ∧ dir = i.testCA)

structure Call where
  dir       : String       -- directory the order went to
  throttled : Bool         -- did `client.throttle` run before it?
  usingTest : Bool         -- doIssue's second result
  deriving DecidableEq, Repr

/-- the client-side part of `doIssue(ctx, csr, attempts)` -/
def doIssue (i : IssueIn) (attempts : Nat) : Call :=
  let useTestCA := decide (attempts > 0)
  let dir := directory i useTestCA
  { dir := dir, throttled := !useTestCA, usingTest := usingTestCA i dir }

/-- how `doWithRetry` will treat the error `Issue` returns -/
inductive ErrClass | none | retryable | noRetry
  deriving DecidableEq, Repr

structure IssueOut where
  calls : List Call
  cert  : Option String    -- directory that issued the certificate `Issue` returns
  err   : ErrClass
  deriving DecidableEq, Repr

def issue (i : IssueIn) : IssueOut :=
  let isRetry := decide (i.attempts > 0)
  let c1 := doIssue i i.attempts
  match i.first with
  | .err => { calls := [c1], cert := none, err := .retryable }
  | .rateLimited => { calls := [c1], cert := none, err := .retryable }
  | .ok =>
    if isRetry = true ∧ c1.usingTest = true ∧ i.ca ≠ i.testCA then
      let c2 := doIssue i 0
      match i.second with
      | .ok => { calls := [c1, c2], cert := some c2.dir, err := .none }
      | .rateLimited => { calls := [c1, c2], cert := none, err := .retryable }
      | .err => { calls := [c1, c2], cert := none, err := .noRetry }
    else { calls := [c1], cert := some c1.dir, err := .none }

/-- what the retry loop sees of an `Issue` result -/
def ErrClass.toOutcome : ErrClass → Outcome
  | .none => .ok
  | .retryable => .fail
  | .noRetry => .noRetry

end CM.Async
