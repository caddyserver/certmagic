/-
C06 / C07 — the certificate bundle of ONE subject in storage: three independent keys per
issuer (`.key`, `.crt`, `.json`), written key → cert → mta by `saveCertResource` through
`storeTx` (crypto.go, storage.go), read key → cert → mta by `loadCertResource`.

Private keys and public keys are abstract identifiers (`KeyId`): "the stored key matches
the leaf" is `key = crt.pub`. That identifiers correspond to real keys is checked per
sample by the Go-side oracles of the harness. Fresh keys come from a counter.

Written after: `obtainCert`, `renewCert`, `reusePrivateKey`, `saveCertResource`,
`loadCertResource(AnyIssuer)`, `storageHasCertResources`, `manageOne` (config.go,
crypto.go), `storeTx` (storage.go, after the `fix:` commit that restores replaced values on
roll-back), `forceRenew` + `moveCompromisedPrivateKey` (maintain.go).
-/
namespace CM.Bundle

abbrev KeyId := Nat

/-- a certificate: the public key it certifies, a serial (= version), its NotBefore -/
structure Crt where
  pub : KeyId
  ser : Nat
  nb  : Nat
  deriving DecidableEq, Repr

/-- the three keys of the bundle under one issuer, plus the quarantine file -/
structure Slots where
  key  : Option KeyId
  crt  : Option Crt
  mta : Option Nat            -- serial of the certificate the metadata describes
  compromised : Option KeyId   -- `<name>.key.compromised`
  deriving DecidableEq, Repr

def Slots.empty : Slots := { key := none, crt := none, mta := none, compromised := none }

inductive Part | key | crt | mta
  deriving DecidableEq, Repr

/-- `storageHasCertResources`: all three keys exist -/
def hasAll (s : Slots) : Bool := s.crt.isSome && s.key.isSome && s.mta.isSome

inductive LoadRes
  | ok (key : KeyId) (crt : Crt)
  | notexist                     -- some key is missing (fs.ErrNotExist)
  | mismatch                     -- all three exist but the key is not the leaf's (tls.X509KeyPair error)
  deriving DecidableEq, Repr

/-- `loadCertResource` + `makeCertificate`: key, then cert, then metadata; then pair them -/
def load (s : Slots) : LoadRes :=
  match s.key with
  | none => .notexist
  | some k =>
    match s.crt with
    | none => .notexist
    | some c =>
      match s.mta with
      | none => .notexist
      | some _ => if k = c.pub then .ok k c else .mismatch

/-- a write of `storeTx` -/
inductive W
  | key (k : KeyId) | crt (c : Crt) | mta (n : Nat)
  deriving DecidableEq, Repr

def applyW (s : Slots) : W → Slots
  | .key k => { s with key := some k }
  | .crt c => { s with crt := some c }
  | .mta n => { s with mta := some n }

/-- `saveCertResource`'s transaction: key, certificate, metadata — in this order -/
def saveWrites (k : KeyId) (c : Crt) : List W := [.key k, .crt c, .mta c.ser]

/-- the first `j` writes reached storage (process death after the j-th store) -/
def applyFirst (j : Nat) (ws : List W) (s : Slots) : Slots := (ws.take j).foldl applyW s

/-- put one slot back to what `old` held -/
def restoreW (old : Slots) (s : Slots) : W → Slots
  | .key _ => { s with key := old.key }
  | .crt _ => { s with crt := old.crt }
  | .mta _ => { s with mta := old.mta }

/-- `storeTx` when its `i`-th store fails (0-based): the earlier writes were applied and are
then rolled back to the remembered previous values (or deleted if there was none) -/
def storeTxFailAt (i : Nat) (ws : List W) (s : Slots) : Slots :=
  (ws.take i).reverse.foldl (restoreW s) (applyFirst i ws s)

structure Env where
  reuse : Bool        -- Config.ReusePrivateKeys
  fresh : KeyId       -- the key the generator would return now
  ser   : Nat         -- serial the issuer would use now
  now   : Nat         -- NotBefore the issuer would use now

/-- the key `obtainCert` uses: the stored one when reuse is on and one is stored, else fresh -/
def obtainKey (e : Env) (s : Slots) : KeyId :=
  if e.reuse then (match s.key with | some k => k | none => e.fresh) else e.fresh

/-- `obtainCert` with a successful issuer and no fault: no-op when everything exists -/
def obtain (e : Env) (s : Slots) : Slots :=
  if hasAll s then s
  else
    let k := obtainKey e s
    applyFirst 3 (saveWrites k { pub := k, ser := e.ser, nb := e.now }) s

/-- the key `renewCert` uses (it has loaded the bundle: `old` is the stored key) -/
def renewKey (e : Env) (old : KeyId) : KeyId := if e.reuse then old else e.fresh

/-- `renewCert` (forced or due) with a successful issuer and no fault -/
def renew (e : Env) (s : Slots) : Option Slots :=
  match load s with
  | .ok old _ =>
    let k := renewKey e old
    some (applyFirst 3 (saveWrites k { pub := k, ser := e.ser, nb := e.now }) s)
  | _ => none    -- nothing (usable) to renew: error

/-- `manageOne` on a fresh instance: load, obtain only if absent; a load error that is not
not-exist is returned to the caller (and stays) -/
def recover (e : Env) (s : Slots) : Slots :=
  match load s with
  | .ok _ _ => s
  | .notexist => obtain e s
  | .mismatch => s

/-- storage ends up serving a certificate with a matching key -/
def usable (s : Slots) : Bool :=
  match load s with
  | .ok _ _ => true
  | _ => false

/-- `moveCompromisedPrivateKey` (no fault): copy to `.compromised`, delete the key -/
def quarantine (s : Slots) : Slots :=
  match s.key with
  | some k => { s with compromised := some k, key := none }
  | none => s

/-- with several issuers: the compromised key is quarantined wherever it is stored (after the
`fix:` commit; it used to be quarantined only under the revoked certificate's issuer, so
another issuer's bundle holding the same reused key was adopted as the "replacement") -/
def quarantineAll (k : KeyId) (l : List Slots) : List Slots :=
  l.map (fun s => if s.key = some k then { s with compromised := some k, key := none } else s)

/-- `forceRenew` for a certificate revoked for key compromise: quarantine, then obtain -/
def replaceCompromised (e : Env) (s : Slots) : Slots := obtain e (quarantine s)

/-- `loadCertResourceAnyIssuer` over several issuers' slots: among the loadable ones the
one with the latest NotBefore; on a tie the first such in configuration order (`d.nb > c.nb`
is strict). Which of the tied ones Go's `sort.Slice`, which is not stable, puts first is not
modelled: the harness generates ties and compares only the NotBefore of the result. -/
def newest : List Slots → Option Crt
  | [] => none
  | s :: rest =>
    match load s, newest rest with
    | .ok _ c, some d => if d.nb > c.nb then some d else some c
    | .ok _ c, none => some c
    | _, r => r

/-! expected storage-call sequences (kind + part), compared verbatim with the real code's
log by the harness: this is the operation-sequence correspondence of C07 -/

inductive Call
  | exists (p : Part) | load (p : Part) | store (p : Part) | delete (p : Part) | lock | unlock
  deriving DecidableEq, Repr

/-- `storageHasCertResources`: crt && key && mta, short-circuit -/
def existsCalls (s : Slots) : List Call :=
  if s.crt.isNone then [.exists .crt]
  else if s.key.isNone then [.exists .crt, .exists .key]
  else [.exists .crt, .exists .key, .exists .mta]

/-- `loadCertResource`: key, crt, mta; stops at the first missing one -/
def loadCalls (s : Slots) : List Call :=
  if s.key.isNone then [.load .key]
  else if s.crt.isNone then [.load .key, .load .crt]
  else [.load .key, .load .crt, .load .mta]

def txCalls : List Call :=
  [.load .key, .load .crt, .load .mta, .store .key, .store .crt, .store .mta]

def obtainCalls (e : Env) (s : Slots) : List Call :=
  if hasAll s then existsCalls s
  else existsCalls s ++ [.lock] ++ existsCalls s ++ (if e.reuse then [.load .key] else []) ++ txCalls ++ [.unlock]

def renewCalls (s : Slots) : List Call :=
  [.lock] ++ loadCalls s ++ (match load s with | .ok _ _ => txCalls | _ => []) ++ [.unlock]

end CM.Bundle
