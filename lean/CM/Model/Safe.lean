/-
C11 — model of `KeyBuilder.Safe` (storage.go) and of the key / path builders that use it.

Written after the code (after the `fix:` commit that moved the `..` strip to the end):

    str = strings.ToLower(str)
    str = strings.TrimSpace(str)
    str = strings.NewReplacer(" ","_", "+","_plus_", "*","wildcard_", ":","-").Replace(str)
    str = safeKeyRE.ReplaceAllLiteralString(str, "")        // [^\w@.-]
    return strings.ReplaceAll(str, "..", "")

Strings are lists of Unicode scalars (what `[]rune(s)` gives in Go). Unicode lower-casing
and the Unicode white-space class are *parameters* (`Env`): the facts the proofs need
about them are explicit hypotheses (`Env.Good`), validated over every code point by the
harness on each run.
-/
namespace CM.Safe

abbrev Str := List Char

structure Env where
  lower   : Char → Char
  isSpace : Char → Bool

def isUpperA (c : Char) : Bool := decide ('A' ≤ c) && decide (c ≤ 'Z')
def isLowerA (c : Char) : Bool := decide ('a' ≤ c) && decide (c ≤ 'z')
def isDigitA (c : Char) : Bool := decide ('0' ≤ c) && decide (c ≤ '9')

/-- `\w` of Go's regexp (RE2): ASCII only -/
def isWord (c : Char) : Bool := isLowerA c || isUpperA c || isDigitA c || c == '_'

/-- complement of the class of `safeKeyRE = [^\w@.-]` -/
def keep (c : Char) : Bool := isWord c || c == '@' || c == '.' || c == '-'

/-- `strings.TrimSpace` -/
def trim (sp : Char → Bool) (s : Str) : Str :=
  ((s.dropWhile sp).reverse.dropWhile sp).reverse

/-- the replacer's pairs, in argument order (all `old` strings are single characters, so
the generic replacer is a character-wise substitution) -/
def pairs : List (Char × String) :=
  [(' ', "_"), ('+', "_plus_"), ('*', "wildcard_"), (':', "-")]

def replC (c : Char) : Str :=
  match pairs.lookup c with
  | some n => n.toList
  | none => [c]

def repl (s : Str) : Str := s.flatMap replC

def filt (s : Str) : Str := s.filter keep

/-- `strings.ReplaceAll(s, "..", "")`: left-to-right, non-overlapping -/
def stripDD : Str → Str
  | [] => []
  | [c] => [c]
  | c :: d :: r => if c = '.' ∧ d = '.' then stripDD r else c :: stripDD (d :: r)

def safe (E : Env) (s : Str) : Str :=
  stripDD (filt (repl (trim E.isSpace (s.map E.lower))))

/-- what the proofs assume about Unicode lower-casing / white space (validated by the
harness over all code points) -/
structure Env.Good (E : Env) : Prop where
  lower_not_upper : ∀ c, isUpperA (E.lower c) = false
  lower_fix       : ∀ c, keep c = true → isUpperA c = false → E.lower c = c
  keep_not_space  : ∀ c, keep c = true → E.isSpace c = false

/-! ### paths: `path.Join` / `path.Clean` on component lists -/

/-- split at '/' -/
def splitSlash : Str → List Str
  | [] => [[]]
  | c :: cs =>
    if c = '/' then [] :: splitSlash cs
    else match splitSlash cs with
      | [] => [[c]]          -- unreachable (splitSlash never returns [])
      | h :: t => (c :: h) :: t

def dot : Str := ['.']
def dotdot : Str := ['.', '.']

/-- one step of the lexical clean of a *relative or rooted* path given as a stack of
components (top = last). `rooted` = the path starts at "/" (then `..` at the root is dropped) -/
def pushComp (rooted : Bool) (stack : List Str) (c : Str) : List Str :=
  if c = [] ∨ c = dot then stack
  else if c = dotdot then
    match stack.reverse with
    | [] => if rooted then [] else [dotdot]
    | top :: rest => if top = dotdot then stack ++ [dotdot] else rest.reverse
  else stack ++ [c]

def cleanComps (rooted : Bool) (cs : List Str) : List Str :=
  cs.foldl (pushComp rooted) []

/-- `path.Join` of an already-clean relative component list with a raw element -/
def joinRaw (base : List Str) (elem : Str) : List Str :=
  (splitSlash elem).foldl (pushComp false) base

def str (s : String) : Str := s.toList

def prefixCerts : Str := str "certificates"
def prefixOCSP : Str := str "ocsp"
def prefixACME : Str := str "acme"

def certsPrefix (E : Env) (issuer : Str) : List Str :=
  joinRaw [prefixCerts] (safe E issuer)

def certsSitePrefix (E : Env) (issuer domain : Str) : List Str :=
  joinRaw (certsPrefix E issuer) (safe E domain)

def siteAsset (E : Env) (ext : String) (issuer domain : Str) : List Str :=
  joinRaw (certsSitePrefix E issuer domain) (safe E domain ++ str ext)

def siteCert (E : Env) := siteAsset E ".crt"
def siteKey (E : Env) := siteAsset E ".key"
def siteMeta (E : Env) := siteAsset E ".json"

/-- `FileStorage.lockFilename` relative to the storage root -/
def lockFile (E : Env) (name : Str) : List Str :=
  joinRaw [str "locks"] (safe E name ++ str ".lock")

/-- `FileStorage.Filename`: root components followed by the key's, cleaned together -/
def filename (root : List Str) (key : List Str) : List Str :=
  key.foldl (pushComp true) root

def showPath (cs : List Str) : String :=
  if cs = [] then "." else String.intercalate "/" (cs.map String.ofList)

end CM.Safe
