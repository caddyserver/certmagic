import CM.Model.Renew
/-!
C05 — model of certificate maintenance, written from the code that exists:

* `Config.manageOne` (config.go): `manageDecision` + `manage`
* `Cache.RenewManagedCertificates` (maintain.go): `scan` (under the read lock) and `exec`
  (after it): reload queue first, then the renew queue, then the delete queue
* `Cache.queueRenewalTask`: the named job `renew_<names[0]>` = `Job` with `kind := .pass old`
* `jobManager.Submit` (async.go): `submit` (a second job with a name that is queued or
  running is dropped)
* `Config.renewCert` / `obtainCert` under the C01 lock, with `doWithRetry`: `attempt`, `settle`
* `Config.reloadManagedCertificate`, `Cache.replaceCertificate`, `removeCertificate`,
  `unsyncedCacheCertificate` (capacity 0 = unlimited): `reload`, `Cache.replace/remove/add`
* `DefaultCertificateSelector` (handshake.go): `select`

Certificates are abstract: an identity (subject, version) standing for the chain hash, the
names, and the validity in whole seconds. "Due" is a parameter `due : now → Cert → Bool` of
every definition that consults it (the theorems hold for every such predicate); the driver instantiates it
with C04's decision `CM.Renew.baseDue` (`dueC04`).

Time is in seconds. A step of the model is one event of a history run to quiescence: a job
that is still alive afterwards is either blocked inside the issuer (`held`) or asleep in
`doWithRetry` (`sleeping t`), in both cases holding the storage lock of its subject.
-/
namespace CM.Maintain

abbrev Name := Nat

structure CertId where
  name : Name
  ver : Nat
  deriving DecidableEq, Repr

structure Cert where
  id : CertId
  names : List Name
  nb : Int
  na : Int
  deriving DecidableEq, Repr

/-- a cache entry: the certificate and the `managed` flag -/
structure Entry where
  cert : Cert
  managed : Bool
  deriving DecidableEq, Repr

/-- `Cache.cache` (entries, keyed by hash) and `Cache.cacheIndex` (name → hashes) -/
structure Cache where
  entries : List Entry
  index : Name → List CertId

namespace Cache

def empty : Cache := ⟨[], fun _ => []⟩

def has (c : Cache) (id : CertId) : Bool := c.entries.any (fun e => e.cert.id == id)

def find? (c : Cache) (id : CertId) : Option Entry := c.entries.find? (fun e => e.cert.id == id)

/-- `removeCertificate`: every mention of the hash leaves the rows of the certificate's
names; the entry is deleted -/
def remove (c : Cache) (x : Cert) : Cache :=
  { entries := c.entries.filter (fun e => e.cert.id != x.id)
    index := fun n => if n ∈ x.names then (c.index n).filter (fun i => i != x.id) else c.index n }

/-- `unsyncedCacheCertificate` (unlimited capacity): no-op when the hash is present -/
def add (c : Cache) (e : Entry) : Cache :=
  if c.has e.cert.id then c else
  { entries := c.entries ++ [e]
    index := fun n => c.index n ++ List.replicate (e.cert.names.count n) e.cert.id }

/-- `replaceCertificate` -/
def replace (c : Cache) (old : Cert) (new : Entry) : Cache := (c.remove old).add new

/-- `getAllMatchingCerts` -/
def row (c : Cache) (n : Name) : List Entry := (c.index n).filterMap c.find?

end Cache

/-- `Certificate.Expired`: after `expiresAt` = NotAfter plus one second (C04's `expiresAt`, in whole seconds) -/
def expiredAt (now : Int) (c : Cert) : Bool := decide (now > c.na + 1)

/-- the selector's in-date test: `now.After(NotBefore) && now.Before(expiresAt(Leaf))` -/
def validAt (now : Int) (c : Cert) : Bool := decide (c.nb < now) && decide (now < c.na + 1)

def selectLoop (now : Int) : List Entry → Entry → Entry
  | [], best => best
  | e :: rest, _ => if validAt now e.cert then e else selectLoop now rest e

/-- `DefaultCertificateSelector` for a client that supports every choice -/
def select (now : Int) : List Entry → Option Entry
  | [] => none
  | [e] => some e
  | e :: rest => some (selectLoop now (e :: rest) e)

/-- the hash `GetCertificate` serves for a name -/
def served (now : Int) (c : Cache) (n : Name) : Option CertId :=
  (select now (c.row n)).map (fun e => e.cert.id)

/-! ### storage, issuer, jobs -/

inductive Stored
  | none | corrupt | ok (c : Cert)
  deriving DecidableEq, Repr

/-- behaviour of instance 0's issuer for a subject -/
inductive Mode
  | ok | hard | soft | hold
  deriving DecidableEq, Repr

inductive JobKind
  | pass (old : Cert)     -- closure of queueRenewalTask
  | mrenew (c : Cert)     -- manageOne's `renew`, certificate due
  | mforce (c : Cert)     -- manageOne's `renew`, certificate revoked: forceRenew
  | mobtain               -- manageOne's `obtain`
  deriving DecidableEq, Repr

inductive Phase
  | held | sleeping (t : Int)
  deriving DecidableEq, Repr

structure Job where
  subj : Name               -- subject of the renewal: lock `issue_cert_<subj>`, CSR name
  jname : Option Name       -- job-manager name `renew_<n>`; none = "" (no de-duplication)
  kind : JobKind
  start : Int               -- doWithRetry's start
  idx : Nat                 -- intervalIndex + 1
  phase : Phase
  deriving DecidableEq, Repr

inductive IssueRes
  | ok (ver : Nat) | fail | begun
  deriving DecidableEq, Repr

structure LogEntry where
  inst : Nat
  subj : Name
  res : IssueRes
  deriving DecidableEq, Repr

structure State where
  now : Int
  life : Int                       -- lifetime the issuers give
  cache : Cache                    -- instance 0's cache
  store : Name → Stored            -- shared storage: the bundle of each name
  ver : Name → Nat                 -- how many certificates the CA has made for each subject
  mode : Name → Mode
  od : Bool                        -- instance 0's config has OnDemand set
  revoked : List (CertId × Int)    -- stored Revoked staples: certificate, time of the response
  jobs : List Job                  -- the process-wide job manager (`jm`)
  log : List LogEntry              -- issuer calls of both instances
  locks : List Name                -- acquisitions of `issue_cert_<name>` (observable: storage Lock calls)
  issued : List Cert               -- ghost: every certificate ever made

def upd {α : Type} (f : Name → α) (k : Name) (v : α) : Name → α := fun n => if n = k then v else f n

def init (life : Int) : State :=
  { now := 0, life := life, cache := Cache.empty, store := fun _ => .none, ver := fun _ => 0
    mode := fun _ => .ok, od := false, revoked := [], jobs := [], log := [], locks := [], issued := [] }

/-- what runs under the C01 lock -/
inductive Core
  | renew (force : Bool) | obtain
  deriving DecidableEq, Repr

def JobKind.core : JobKind → Core
  | .pass _ => .renew false
  | .mrenew _ => .renew false
  | .mforce _ => .renew true
  | .mobtain => .obtain

inductive Res
  | done | hardErr | softErr | held
  deriving DecidableEq, Repr

/-- `retryIntervals` and `maxRetryDuration` of async.go, in seconds (tied by `C05_tie_retry_table`) -/
def retryTable : List Int :=
  [60, 120, 120, 300, 600, 600, 600, 1200, 1200, 1200, 1200, 1800, 1800, 1800, 1800, 1800, 1800,
   3600, 3600, 3600, 7200, 7200, 10800, 10800, 21600]

def maxRetry : Int := 30 * 86400

def newCert (s : State) (k : Name) : Cert :=
  { id := ⟨k, s.ver k + 1⟩, names := [k], nb := s.now, na := s.now + s.life }

/-- a successful `Issue` followed by `saveCertResource` -/
def issue (s : State) (inst : Nat) (k : Name) : State :=
  { s with ver := upd s.ver k (s.ver k + 1), store := upd s.store k (.ok (newCert s k)),
           log := s.log ++ [⟨inst, k, .ok (s.ver k + 1)⟩], issued := s.issued ++ [newCert s k] }

def logRes (s : State) (inst : Nat) (k : Name) (r : IssueRes) : State :=
  { s with log := s.log ++ [⟨inst, k, r⟩] }

/-- `acquireLock(issue_cert_<k>)` (recorded; the lock is free whenever the model gets here) -/
def takeLock (s : State) (k : Name) : State := { s with locks := s.locks ++ [k] }

def lockHeld (s : State) (k : Name) : Bool := s.jobs.any (fun j => j.subj == k)

/-- `loadManagedCertificate` -/
def loadEntry (s : State) (k : Name) : Option Entry :=
  match s.store k with
  | .ok c => some ⟨c, true⟩
  | _ => none

/-- `reloadManagedCertificate(old)`, where `k = old.Names[0]` -/
def reload (s : State) (old : Cert) (k : Name) : State :=
  match loadEntry s k with
  | some e => { s with cache := s.cache.replace old e }
  | none => s

/-- the job's code after `renewCert`/`obtainCert` returned nil -/
def finishOk (s : State) (j : Job) : State :=
  match j.kind with
  | .pass old => reload s old j.subj
  | .mrenew c => reload s c (c.names.headD j.subj)   -- renewed under the managed name, reloaded under `Names[0]`
  | .mforce c => reload s c j.subj                   -- `forceRenew`: the job's subject already is `Names[0]`
  | .mobtain =>
    match loadEntry s j.subj with
    | some e => { s with cache := s.cache.add e }
    | none => s

/-- … and after it returned an error -/
def finishFail (s : State) (j : Job) : State :=
  match j.kind with
  | .pass old => if s.od then { s with cache := s.cache.remove old } else s
  | .mforce c => { s with cache := s.cache.remove c }
  | _ => s

section
variable (due : Int → Cert → Bool)

/-- `managedCertNeedsRenewal` on a stored bundle (unparseable ⇒ true) -/
def storedDue (now : Int) : Stored → Bool
  | .ok c => due now c
  | _ => true

/-- does this attempt reach the issuer?  `none`: the resource could not be loaded -/
def needIssue (s : State) (k : Name) : Core → Option Bool
  | .obtain =>
    match s.store k with
    | .none => some true
    | _ => some false
  | .renew force =>
    match s.store k with
    | .none => none
    | st => some (force || storedDue due s.now st)

/-- one run of the function `f` inside `renewCert` / `obtainCert` (instance 0) -/
def attempt (s : State) (k : Name) (core : Core) : Res × State :=
  match needIssue due s k core with
  | none => (.softErr, s)
  | some false => (.done, s)
  | some true =>
    match s.mode k with
    | .ok => (.done, issue s 0 k)
    | .hard => (.hardErr, logRes s 0 k .fail)
    | .soft => (.softErr, logRes s 0 k .fail)
    | .hold => (.held, logRes s 0 k .begun)

/-- `doWithRetry` after an attempt, and the rest of the job -/
def settle (s : State) (j : Job) (r : Res) : State :=
  match r with
  | .done => finishOk s j
  | .hardErr => finishFail s j
  | .held => { s with jobs := s.jobs ++ [{ j with phase := .held }] }
  | .softErr =>
    if s.now - j.start < maxRetry then
      { s with jobs := s.jobs ++ [{ j with idx := min (j.idx + 1) retryTable.length,
                                            phase := .sleeping (s.now + retryTable.getD (min (j.idx + 1) retryTable.length - 1) 0) }] }
    else finishFail s j     -- "final attempt; giving up": the last error is returned

/-- run a job (which is not in the table) from an attempt on -/
def runJob (s : State) (j : Job) : State :=
  settle (attempt due s j.subj j.kind.core).2 j (attempt due s j.subj j.kind.core).1

/-- `jm.Submit` followed by the start of the job (there is always a free worker) -/
def submit (s : State) (j : Job) : State :=
  match j.jname with
  | some n => if s.jobs.any (fun j' => j'.jname == some n) then s else runJob due (takeLock s j.subj) j
  | none => runJob due (takeLock s j.subj) j

/-! ### the maintenance pass -/

structure Plan where
  reload : List Cert
  renew : List Cert
  del : List Cert

/-- `certList.insert` -/
def insertCert (l : List Cert) (c : Cert) : List Cert :=
  if l.any (fun x => x.id == c.id) then l else l ++ [c]

/-- which queue the loop under `certCache.mu.RLock()` puts a cache entry on -/
inductive Queue
  | skip | del | renew | reload
  deriving DecidableEq, Repr

/-- the decisions of the loop body, in source order: unmanaged ⇒ skip; no names ⇒ delete
queue; on-demand config ⇒ skip; not due ⇒ skip; storage check
(`managedCertInStorageNeedsRenewal`): error or still due ⇒ renew queue, else reload queue -/
def classify (s : State) (e : Entry) : Queue :=
  if !e.managed then .skip else
  match e.cert.names with
  | [] => .del
  | k :: _ =>
    if s.od then .skip else
    if !due s.now e.cert then .skip else
    match s.store k with
    | .none => .renew
    | st => if storedDue due s.now st then .renew else .reload

def scanStep (s : State) (p : Plan) (e : Entry) : Plan :=
  match classify due s e with
  | .skip => p
  | .del => { p with del := p.del ++ [e.cert] }
  | .renew => { p with renew := insertCert p.renew e.cert }
  | .reload => { p with reload := p.reload ++ [e.cert] }

def scan (s : State) : Plan := s.cache.entries.foldl (scanStep due s) ⟨[], [], []⟩

def reloadOld (s : State) (old : Cert) : State := reload s old (old.names.headD 0)

def passJob (s : State) (old : Cert) : Job :=
  { subj := old.names.headD 0, jname := some (old.names.headD 0), kind := .pass old
    start := s.now, idx := 0, phase := .held }

def submitPass (s : State) (old : Cert) : State := submit due s (passJob s old)

def removeOld (s : State) (c : Cert) : State := { s with cache := s.cache.remove c }

/-- after `RUnlock`: reload queue, renew queue, delete queue -/
def exec (s : State) (p : Plan) : State :=
  p.del.foldl removeOld (p.renew.foldl (submitPass due) (p.reload.foldl reloadOld s))

def pass (s : State) : State := exec due s (scan due s)

/-! ### manageOne -/

inductive LoadRes
  | ok | notexist | othererr
  deriving DecidableEq, Repr

inductive ManageAct
  | nothing           -- already managed
  | error             -- load failed with something else than not-exist
  | obtainThenCache   -- nothing in storage
  | cacheOnly         -- loaded and cached; not due, not revoked
  | cacheThenRenew    -- loaded and cached; due: renew, then reload
  | cacheThenForce    -- loaded and cached; revoked: forceRenew
  deriving DecidableEq, Repr

def manageDecision (alreadyManaged : Bool) (load : LoadRes) (revoked dueNow : Bool) : ManageAct :=
  if alreadyManaged then .nothing else
  match load with
  | .othererr => .error
  | .notexist => .obtainThenCache
  | .ok => if revoked then .cacheThenForce else if dueNow then .cacheThenRenew else .cacheOnly

inductive Out
  | dash | ok | err | busy | skip | none | done | noop | issued
  deriving DecidableEq, Repr

/-- `manageOne`'s revoked test: not expired, and a stored Revoked staple that `stapleOCSP` still takes
(`freshOCSP`: before the midpoint of [time of the response, NextUpdate]; the harness's responses have
NextUpdate = NotAfter) -/
def revokedNow (s : State) (c : Cert) : Bool :=
  !expiredAt s.now c &&
    s.revoked.any (fun p => p.1 == c.id && decide (2 * s.now < 2 * p.2 + (c.na - p.2)))

def everRevoked (s : State) (k : Name) : Bool := s.revoked.any (fun p => p.1.name == k)

def alreadyManaged (s : State) (k : Name) : Bool := (s.cache.row k).any (fun e => e.managed)

def loadRes (s : State) (k : Name) (fault : Bool) : LoadRes :=
  if fault then .othererr else
  match s.store k with
  | .none => .notexist
  | .corrupt => .othererr
  | .ok _ => .ok

/-- the certificate `CacheManagedCertificate` loads (meaningful when the load succeeds) -/
def storedCert (s : State) (k : Name) : Cert :=
  match s.store k with
  | .ok c => c
  | _ => newCert s k

def mkJob (s : State) (subj : Name) (jname : Option Name) (kind : JobKind) : Job :=
  { subj := subj, jname := jname, kind := kind, start := s.now, idx := 0, phase := .held }

def okIf (b : Bool) : Out := if b then .ok else .err

/-- `manageAll` for one name, then `manageOne` -/
def manage (s : State) (k : Name) (async fault : Bool) : State × Out :=
  if s.od then (s, .ok) else
  if lockHeld s k then (s, .busy) else
  -- the harness does not make a synchronous call that might not return within the step: held inside the
  -- issuer, or asleep in `doWithRetry` (`forceRenew` is `RenewCertAsync`, with retries, also under `ManageSync`)
  if !async && (s.mode k == .hold || (s.mode k == .soft && everRevoked s k)) then (s, .skip) else
  let c := storedCert s k
  match manageDecision (alreadyManaged s k) (loadRes s k fault) (revokedNow s c) (due s.now c) with
  | .nothing => (s, .ok)
  | .error => (s, .err)
  | .cacheOnly => ({ s with cache := s.cache.add ⟨c, true⟩ }, .ok)
  | .obtainThenCache =>
    if async then (submit due s (mkJob s k none .mobtain), .ok) else
    let a := attempt due (takeLock s k) k .obtain
    match a.1 with
    | .done =>
      match loadEntry a.2 k with
      | some e => ({ a.2 with cache := a.2.cache.add e }, .ok)
      | none => (a.2, .err)
    | _ => (a.2, .err)
  | .cacheThenRenew =>
    let s1 := { s with cache := s.cache.add ⟨c, true⟩ }
    if async then (submit due s1 (mkJob s1 k (some k) (.mrenew c)), .ok) else
    let a := attempt due (takeLock s1 k) k (.renew false)
    match a.1 with
    | .done => (reload a.2 c (c.names.headD k), okIf (loadEntry a.2 (c.names.headD k)).isSome)
    | _ => (a.2, .err)
  | .cacheThenForce =>
    let s1 := { s with cache := s.cache.add ⟨c, true⟩ }
    let subj := c.names.headD k
    if async then (submit due s1 (mkJob s1 subj (some k) (.mforce c)), .ok) else
    let a := attempt due (takeLock s1 subj) subj (.renew true)
    (settle a.2 (mkJob s1 subj none (.mforce c)) a.1,
     okIf (a.1 == .done && (loadEntry a.2 subj).isSome))

/-! ### the other events of a history -/

def Job.wakeAt (j : Job) : Option Int :=
  match j.phase with
  | .sleeping t => some t
  | .held => none

def minWake : List Job → Option Int
  | [] => none
  | j :: js =>
    match j.wakeAt, minWake js with
    | some t, some u => some (min t u)
    | some t, none => some t
    | none, r => r

def takeAt (t : Int) : List Job → Option (Job × List Job)
  | [] => none
  | j :: js =>
    if j.wakeAt = some t then some (j, js)
    else (takeAt t js).map (fun p => (p.1, j :: p.2))

def takeHeld (k : Name) : List Job → Option (Job × List Job)
  | [] => none
  | j :: js =>
    if j.subj = k ∧ j.phase = .held then some (j, js)
    else (takeHeld k js).map (fun p => (p.1, j :: p.2))

/-- virtual time passes: the retry timers that fall due fire in order -/
def advTo : Nat → State → Int → State
  | 0, s, target => { s with now := target }
  | fuel + 1, s, target =>
    match minWake s.jobs with
    | none => { s with now := target }
    | some t =>
      if t ≤ target then
        match takeAt t s.jobs with
        | some (j, rest) => advTo fuel (runJob due { s with now := t, jobs := rest } j) target
        | none => { s with now := target }
      else { s with now := target }

/-- a held `Issue` call returns -/
def release (s : State) (k : Name) (r : Mode) : State × Out :=
  match takeHeld k s.jobs with
  | none => (s, .none)
  | some (j, rest) =>
    match r with
    | .ok => (settle (issue { s with jobs := rest } 0 k) j .done, .done)
    | .hard => (settle (logRes { s with jobs := rest } 0 k .fail) j .hardErr, .done)
    | _ => (settle (logRes { s with jobs := rest } 0 k .fail) j .softErr, .done)

/-- instance 1: `RenewCertSync` / `ObtainCertSync` (its issuer works) -/
def other (s : State) (k : Name) (obtain : Bool) : State × Out :=
  if lockHeld s k then (s, .busy) else
  match needIssue due s k (if obtain then .obtain else .renew false) with
  | none => (takeLock s k, .err)
  | some false => (if obtain then s else takeLock s k, .noop)   -- obtainCert returns before the lock when the bundle exists
  | some true => (issue (takeLock s k) 1 k, .issued)

/-- `Cache.RemoveManaged` for one subject -/
def removeManaged (s : State) (k : Name) : State :=
  ((s.cache.row k).filter (fun e => e.managed)).foldl (fun s e => removeOld s e.cert) s

def revoke (s : State) (k : Name) : State × Out :=
  match s.store k with
  | .ok c => if s.now < c.na then ({ s with revoked := (c.id, s.now) :: s.revoked }, .done) else (s, .none)
  | _ => (s, .none)

def corrupt (s : State) (k : Name) : State :=
  match s.store k with
  | .none => s
  | _ => { s with store := upd s.store k .corrupt }

def unmanaged (s : State) (k : Name) (life : Int) : State :=
  let c : Cert := { id := ⟨k, s.ver k + 1⟩, names := [k], nb := s.now, na := s.now + life }
  { s with ver := upd s.ver k (s.ver k + 1), cache := s.cache.add ⟨c, false⟩, issued := s.issued ++ [c] }

inductive Ev
  | adv (d : Int)
  | pass
  | pass2   -- two passes at once, the issuer answering after both returned: every job of the
            -- one is running when the other submits, so the second adds nothing (`submit`)
  | manage (k : Name) (async fault : Bool)
  | mode (k : Name) (m : Mode)
  | rel (k : Name) (r : Mode)
  | oren (k : Name)
  | oobt (k : Name)
  | del (k : Name)
  | corrupt (k : Name)
  | rm (k : Name)
  | revoke (k : Name)
  | od (b : Bool)
  | unm (k : Name) (life : Int)
  deriving Repr

/-- fuel of `advTo`: one unit per retry timer that fires inside one `adv`; at 0 the clock jumps to the target.
Ample: a job's timer fires fewer than 150 times before `maxRetry` ends it (the table sums to one day, then
every six hours for 29 days) -/
def advFuel : Nat := 100000

def step (s : State) : Ev → State × Out
  | .adv d => (advTo due advFuel s (s.now + d), .dash)
  | .pass => (pass due s, .dash)
  | .pass2 => (pass due s, .dash)
  | .manage k a f => manage due s k a f
  | .mode k m => ({ s with mode := upd s.mode k m }, .dash)
  | .rel k r => release s k r
  | .oren k => other due s k false
  | .oobt k => other due s k true
  | .del k => ({ s with store := upd s.store k .none }, .dash)
  | .corrupt k => (corrupt s k, .dash)
  | .rm k => (removeManaged s k, .dash)
  | .revoke k => revoke s k
  | .od b => ({ s with od := b }, .dash)
  | .unm k l => (unmanaged s k l, .dash)

def run (s : State) (evs : List Ev) : State := evs.foldl (fun s e => (step due s e).1) s

end

/-! ### the C04 decision as the `due` predicate (what the driver uses) -/

/-- `DefaultRenewCheckInterval` (tied by `C05_tie_interval`) -/
def renewInterval : Int := 600

def dueC04 (now : Int) (c : Cert) : Bool :=
  CM.Renew.baseDue { now := now * CM.Renew.sec, nb := c.nb * CM.Renew.sec, na := c.na * CM.Renew.sec
                     rnum := 0, rden := 1, interval := renewInterval * CM.Renew.sec, disableARI := true
                     window := none, selected := none, rnd := 0 }

end CM.Maintain
