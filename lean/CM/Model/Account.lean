import CM.Lib.Upd
/-
C20 — model of ACME account handling (account.go, acmeclient.go, acmeissuer.go), written
from the code AFTER the `fix:` patches D14 (the local account that is reset on
account-does-not-exist is the one of the directory in use), D19 (the HTTPS rule is applied
to the test CA too), D24 (`deleteAccountLocally` takes the registration lock and leaves a
stored account alone that is not the one the CA rejected) and D25 (the retry after a
re-registration uses the new account).

Part 1 is a labelled transition system over ANY number of client constructions
(`newACMEClientWithAccount`, one per `Issue`) in any number of instances sharing one
storage and one CA, for one (CA, contact):

  storage   `reg`, `key` : the two files `…/users/<contact>/<user>.json` and `….key`,
            holding the identity (a number) of the account they belong to
  lock      the storage lock `register_acme_account_<contact>`
  ca        the set of account keys the CA knows
  pc p      where process p is in `getAccount → lock → getAccount → NewAccount →
            saveAccount (storeTx: read the two old values, store registration, then key;
            on failure put the old registration back / delete it) → unlock`,
            in an order (`ready`), or in the recreate path of `doIssue`
            (`deleteAccountLocally`: lock → load+compare → delete registration → delete key → unlock)

Every non-deterministic choice (who moves, storage faults, CA failures, the CA forgetting
accounts) is carried by the event, so `step` is a function and `run` is the trace validator
the driver uses on histories observed from the real code.

Part 2 is the HTTPS rule of `secureCAURL` / `newBasicACMEClient` / `newACMEClient` and the
host classification of `SubjectIsInternal`, as pure functions of what Go's `url.Parse`,
`net.SplitHostPort` and `net.ParseIP` report.

The lemmas that say what `upd`, `updB`, `stored`, `hasSep`, `secureCA`, `newClient` and `inNet` compute stand
directly below these definitions, not in a proof module.
-/
namespace CM.Account

/-! ## Part 1: the account protocol -/

inductive PC
  | idle
  | loadReg                       -- first getAccount (no lock): Load registration pending
  | loadKey (a : Nat)             -- registration of a read; Load private key pending
  | wantLock                      -- no account in storage (new key made): acquireLock pending
  | reload                        -- lock held: second getAccount pending
  | register (k : Nat)            -- lock held, nothing stored: client.NewAccount pending, fresh key k
  | savePre (k : Nat)             -- registered at the CA: storeTx reads the values it will replace
  | saveReg (k : Nat)             -- Store registration pending
  | saveKey (k : Nat) (prev : Option Nat)   -- Store private key pending; prev = replaced registration
  | rollback (k : Nat) (prev : Option Nat)  -- the key store failed: storeTx puts `prev` back
  | release (r : Option (Nat × Nat))  -- deferred releaseLock pending; r = account to return
  | ready (a k : Nat)             -- client constructed: registration of a, private key of k
  | failed                        -- construction / order returned an error
  | dneLock (a : Nat)             -- the CA answered account-does-not-exist for a: acquireLock pending
  | dneCheck (a : Nat)            -- lock held: loadAccount and comparison pending
  | dneDelReg (a : Nat)           -- Delete registration pending
  | dneDelKey (a : Nat)           -- Delete private key pending
  | dneRel (ok : Bool)            -- deferred releaseLock pending; ok ⇒ construct again
  deriving DecidableEq, Repr

/-- a new construction may begin whenever no construction is in progress -/
def PC.canStart : PC → Bool
  | .idle | .failed | .ready _ _ => true
  | _ => false

/-- outcome of `client.NewAccount` -/
inductive RegOut | ok | refused | lost   -- lost: the CA registered but the answer never arrived
  deriving DecidableEq, Repr

structure St where
  lock : Option Nat
  reg : Option Nat
  key : Option Nat
  ca : Nat → Bool
  pc : Nat → PC
  nextKey : Nat           -- every key made so far is below
  registers : Nat         -- ghost: accounts created at the CA
  faults : Nat            -- ghost: storage faults and lost answers so far
  forgets : Nat           -- ghost: accounts the CA has forgotten
  delKeyFaults : Nat      -- ghost: failed deletions of the key file in the recreate path
  dneAns : Nat → Bool     -- ghost: the CA has answered account-does-not-exist for a
  regW : Nat → Bool       -- ghost: a Store of a's registration has succeeded at some time
  keyW : Nat → Bool       -- ghost: a Store of a's private key has succeeded at some time

def upd (f : Nat → PC) (p : Nat) (v : PC) : Nat → PC := fun q => if q = p then v else f q

@[simp] theorem upd_same {f : Nat → PC} {p : Nat} {v : PC} : upd f p v p = v := if_pos rfl
theorem upd_other {f : Nat → PC} {p q : Nat} {v : PC} (h : q ≠ p) : upd f p v q = f q := if_neg h

theorem upd_self (f : Nat → PC) (p : Nat) : upd f p (f p) = f := Upd.upd_self f p

def updB (f : Nat → Bool) (a : Nat) (v : Bool) : Nat → Bool := fun b => if b = a then v else f b

theorem updB_same {f : Nat → Bool} {a : Nat} {v : Bool} : updB f a v a = v := if_pos rfl
theorem updB_other {f : Nat → Bool} {a b : Nat} {v : Bool} (h : b ≠ a) : updB f a v b = f b := if_neg h
theorem updB_mono {f : Nat → Bool} {a b : Nat} (h : f b = true) : updB f a true b = true := by
  unfold updB; split <;> simp [h]

/-- what `loadAccount` returns when both reads happen with no write in between -/
def stored (s : St) : Option (Nat × Nat) :=
  match s.reg, s.key with
  | some a, some b => some (a, b)
  | _, _ => none

theorem stored_none_iff {s : St} : stored s = none ↔ s.reg = none ∨ s.key = none := by
  unfold stored; cases s.reg <;> cases s.key <;> simp

theorem stored_some_iff {s : St} {a b : Nat} : stored s = some (a, b) ↔ s.reg = some a ∧ s.key = some b := by
  unfold stored; cases s.reg <;> cases s.key <;> simp

inductive Ev
  | start (p : Nat)
  | loadReg (p : Nat) (flt : Bool)
  | loadKey (p : Nat) (flt : Bool)
  | acq (p : Nat) (ok : Bool)
  | reload (p : Nat) (flt : Bool) (k : Nat)      -- k: the key `newAccount` makes if nothing is stored
  | register (p : Nat) (out : RegOut)
  | savePre (p : Nat) (flt : Bool)
  | saveReg (p : Nat) (ok : Bool)
  | saveKey (p : Nat) (ok : Bool)
  | rollback (p : Nat) (ok : Bool)
  | rel (p : Nat) (ok : Bool)
  | order (p : Nat)
  | caForget (a : Nat)
  | dneAcq (p : Nat) (ok : Bool)
  | dneCheck (p : Nat) (flt : Bool)
  | dneDelReg (p : Nat) (ok : Bool)
  | dneDelKey (p : Nat) (ok : Bool)
  | dneRel (p : Nat) (ok : Bool)
  deriving Repr

def step (s : St) : Ev → Option St
  | .start p =>
    if (s.pc p).canStart = true then some { s with pc := upd s.pc p .loadReg } else none
  | .loadReg p flt =>
    if s.pc p = .loadReg then
      if flt = true then some { s with pc := upd s.pc p .failed, faults := s.faults + 1 }
      else match s.reg with
        | some a => some { s with pc := upd s.pc p (.loadKey a) }
        | none => some { s with pc := upd s.pc p .wantLock }
    else none
  | .loadKey p flt =>
    match s.pc p with
    | .loadKey a =>
      if flt = true then some { s with pc := upd s.pc p .failed, faults := s.faults + 1 }
      else match s.key with
        | some b => some { s with pc := upd s.pc p (.ready a b) }
        | none => some { s with pc := upd s.pc p .wantLock }
    | _ => none
  | .acq p ok =>
    if s.pc p = .wantLock then
      if ok = true then
        if s.lock = none then some { s with lock := some p, pc := upd s.pc p .reload } else none
      else some { s with pc := upd s.pc p .failed, faults := s.faults + 1 }
    else none
  | .reload p flt k =>
    if s.pc p = .reload then
      if flt = true then some { s with pc := upd s.pc p (.release none), faults := s.faults + 1 }
      else match stored s with
        | some ab => some { s with pc := upd s.pc p (.release (some ab)) }
        | none =>
          if s.nextKey ≤ k then some { s with pc := upd s.pc p (.register k), nextKey := k + 1 } else none
    else none
  | .register p out =>
    match s.pc p with
    | .register k =>
      match out with
      | .ok => some { s with ca := updB s.ca k true, registers := s.registers + 1, pc := upd s.pc p (.savePre k) }
      | .refused => some { s with pc := upd s.pc p (.release none) }
      | .lost => some { s with ca := updB s.ca k true, registers := s.registers + 1, faults := s.faults + 1,
                               pc := upd s.pc p (.release none) }
    | _ => none
  | .savePre p flt =>
    match s.pc p with
    | .savePre k =>
      if flt = true then some { s with pc := upd s.pc p (.release none), faults := s.faults + 1 }
      else some { s with pc := upd s.pc p (.saveReg k) }
    | _ => none
  | .saveReg p ok =>
    match s.pc p with
    | .saveReg k =>
      if ok = true then some { s with reg := some k, pc := upd s.pc p (.saveKey k s.reg), regW := updB s.regW k true }
      else some { s with pc := upd s.pc p (.release none), faults := s.faults + 1 }
    | _ => none
  | .saveKey p ok =>
    match s.pc p with
    | .saveKey k prev =>
      if ok = true then some { s with key := some k, pc := upd s.pc p (.release (some (k, k))), keyW := updB s.keyW k true }
      else some { s with pc := upd s.pc p (.rollback k prev), faults := s.faults + 1 }
    | _ => none
  | .rollback p ok =>
    match s.pc p with
    | .rollback _ prev =>
      if ok = true then some { s with reg := prev, pc := upd s.pc p (.release none) }
      else some { s with pc := upd s.pc p (.release none), faults := s.faults + 1 }
    | _ => none
  | .rel p ok =>
    match s.pc p with
    | .release r =>
      let next : PC := match r with
        | some (a, b) => .ready a b
        | none => .failed
      if ok = true then some { s with lock := none, pc := upd s.pc p next }
      else some { s with pc := upd s.pc p next, faults := s.faults + 1 }
    | _ => none
  | .order p =>
    match s.pc p with
    | .ready a k =>
      if s.ca a = false then some { s with pc := upd s.pc p (.dneLock a), dneAns := updB s.dneAns a true }
      else if a = k then some s
      else some { s with pc := upd s.pc p .failed }
    | _ => none
  | .caForget a => some { s with ca := updB s.ca a false, forgets := s.forgets + 1 }
  | .dneAcq p ok =>
    match s.pc p with
    | .dneLock a =>
      if ok = true then
        if s.lock = none then some { s with lock := some p, pc := upd s.pc p (.dneCheck a) } else none
      else some { s with pc := upd s.pc p .failed, faults := s.faults + 1 }
    | _ => none
  | .dneCheck p flt =>
    match s.pc p with
    | .dneCheck a =>
      if flt = true then some { s with pc := upd s.pc p (.dneRel false), faults := s.faults + 1 }
      else match stored s with
        | some (a', _) =>
          if a' = a then some { s with pc := upd s.pc p (.dneDelReg a) }
          else some { s with pc := upd s.pc p (.dneRel true) }
        | none => some { s with pc := upd s.pc p (.dneDelReg a) }
    | _ => none
  | .dneDelReg p ok =>
    match s.pc p with
    | .dneDelReg a =>
      if ok = true then some { s with reg := none, pc := upd s.pc p (.dneDelKey a) }
      else some { s with pc := upd s.pc p (.dneRel false), faults := s.faults + 1 }
    | _ => none
  | .dneDelKey p ok =>
    match s.pc p with
    | .dneDelKey _ =>
      if ok = true then some { s with key := none, pc := upd s.pc p (.dneRel true) }
      else some { s with pc := upd s.pc p (.dneRel false), faults := s.faults + 1,
                         delKeyFaults := s.delKeyFaults + 1 }
    | _ => none
  | .dneRel p ok =>
    match s.pc p with
    | .dneRel r =>
      let next : PC := if r = true then .loadReg else .failed
      if ok = true then some { s with lock := none, pc := upd s.pc p next }
      else some { s with pc := upd s.pc p next, faults := s.faults + 1 }
    | _ => none

def init : St :=
  { lock := none, reg := none, key := none, ca := fun _ => false, pc := fun _ => .idle, nextKey := 0
    registers := 0, faults := 0, forgets := 0, delKeyFaults := 0, dneAns := fun _ => false
    regW := fun _ => false, keyW := fun _ => false }

/-- the trace validator: a history is a run iff every event is enabled in turn -/
def run (s : St) : List Ev → Option St
  | [] => some s
  | e :: t => match step s e with
    | some s' => run s' t
    | none => none

/-- what the examples look at -/
structure View where
  registers : Nat
  faults : Nat
  forgets : Nat
  reg : Option Nat
  key : Option Nat
  lock : Option Nat
  pcs : List PC
  deriving DecidableEq, Repr

def view (n : Nat) (s : St) : View :=
  { registers := s.registers, faults := s.faults, forgets := s.forgets, reg := s.reg, key := s.key, lock := s.lock
    pcs := (List.range n).map s.pc }

inductive Reach : St → Prop
  | init : Reach init
  | step {s e s'} : Reach s → step s e = some s' → Reach s'

/-- names the model stands for (tied to the source by CM/Tie/C20) -/
def lockNamePrefix : String := "register_acme_account"
def regFile : String × String := ("registration", ".json")
def keyFile : String × String := ("private", ".key")

/-! ## Part 2: the HTTPS rule -/

def httpsL : List Char := "https".toList
def httpsPrefix : List Char := "https://".toList

/-- `strings.Contains(s, "://")` -/
def hasSep : List Char → Bool
  | [] => false
  | c :: t => (c == ':' && t.take 2 == ['/', '/']) || hasSep t

theorem hasSep_append_left (a b : List Char) (h : hasSep a = true) : hasSep (a ++ b) = true := by
  revert h
  fun_induction hasSep a <;> intro h
  next => cases h
  next c t ih =>
    simp only [List.cons_append, hasSep, Bool.or_eq_true, Bool.and_eq_true] at h ⊢
    refine h.imp (fun ⟨h1, h2⟩ => ⟨h1, ?_⟩) ih
    -- the two characters after the colon are there, so they are the first two of `t ++ b` as well
    have : 2 ≤ t.length := by have := congrArg List.length (eq_of_beq h2); simp at this; omega
    rw [List.take_append_of_le_length this]; exact h2

/-- the string handed to `url.Parse`: https is assumed when the scheme is missing -/
def withScheme (s : List Char) : List Char := if hasSep s then s else httpsPrefix ++ s

/-- what Go reports about the string handed to `url.Parse` -/
structure UrlFacts where
  parseOK : Bool
  scheme : List Char
  internal : Bool        -- SubjectIsInternal(u.Host)
  deriving DecidableEq, Repr

/-- `secureCAURL` succeeds -/
def secureCA (u : UrlFacts) : Bool := u.parseOK && (u.scheme == httpsL || u.internal)

theorem secureCA_iff {u : UrlFacts} :
    secureCA u = true ↔ u.parseOK = true ∧ (u.scheme = httpsL ∨ u.internal = true) := by
  simp [secureCA]

inductive Which | ca | test
  deriving DecidableEq, Repr

/-- `newACMEClient(useTestCA)`: which configured URL becomes the client's directory, if the
construction succeeds (`testSet` = `iss.TestCA != ""`) -/
def newClient (ca test : UrlFacts) (testSet useTest : Bool) : Option Which :=
  if secureCA ca then
    if useTest && testSet then (if secureCA test then some .test else none) else some .ca
  else none

def Which.pick (w : Which) (ca test : UrlFacts) : UrlFacts :=
  match w with
  | .ca => ca
  | .test => test

theorem newClient_secure {ca test : UrlFacts} {testSet useTest : Bool} {w : Which}
    (h : newClient ca test testSet useTest = some w) : secureCA ca = true ∧ secureCA (w.pick ca test) = true := by
  revert h
  fun_cases newClient ca test testSet useTest
  all_goals intro h; cases h
  next hca _ ht => exact ⟨hca, ht⟩
  next hca _ => exact ⟨hca, hca⟩

/-! ### `SubjectIsInternal` -/

def endsWith (s suf : List Char) : Bool := suf.isSuffixOf s

/-- the networks of `isInternalIP`: (CIDR as written, network bytes, prefix length) -/
def privateNetworks : List (String × List Nat × Nat) :=
  [ ("127.0.0.0/8", [127, 0, 0, 0], 8),
    ("0.0.0.0/16", [0, 0, 0, 0], 16),
    ("10.0.0.0/8", [10, 0, 0, 0], 8),
    ("172.16.0.0/12", [172, 16, 0, 0], 12),
    ("192.168.0.0/16", [192, 168, 0, 0], 16),
    ("169.254.0.0/16", [169, 254, 0, 0], 16),
    ("::1/7", [0, 0, 0, 0, 0, 0, 0, 0, 0, 0, 0, 0, 0, 0, 0, 0], 7),
    ("fe80::/10", [0xfe, 0x80, 0, 0, 0, 0, 0, 0, 0, 0, 0, 0, 0, 0, 0, 0], 10),
    ("fc00::/7", [0xfc, 0, 0, 0, 0, 0, 0, 0, 0, 0, 0, 0, 0, 0, 0, 0], 7) ]

/-- `IPNet.Contains` on byte lists (ip already reduced with `To4`) -/
def inNet (ip net : List Nat) (bits : Nat) : Bool :=
  ip.length == net.length &&
  ip.take (bits / 8) == net.take (bits / 8) &&
  (bits % 8 == 0 ||
    (ip.getD (bits / 8) 0) / 2 ^ (8 - bits % 8) == (net.getD (bits / 8) 0) / 2 ^ (8 - bits % 8))

theorem inNet_cons (x n : Nat) (ip net : List Nat) (bits : Nat) :
    inNet (x :: ip) (n :: net) (bits + 8) = (x == n && inNet ip net bits) := by
  simp only [inNet, Nat.add_div_right bits (by decide : 0 < 8), Nat.add_mod_right, List.length_cons,
    List.take_succ_cons, List.getD_cons_succ]
  cases hx : x == n <;> simp [hx]

theorem inNet_bits (x n : Nat) (ip net : List Nat) (bits : Nat) (h0 : 0 < bits) (h8 : bits < 8) :
    inNet (x :: ip) (n :: net) bits = (ip.length == net.length && x / 2 ^ (8 - bits) == n / 2 ^ (8 - bits)) := by
  have hb : (bits == 0) = false := by cases bits <;> simp at h0 ⊢
  simp [inNet, Nat.div_eq_of_lt h8, Nat.mod_eq_of_lt h8, hb]

theorem inNet_zero (ip net : List Nat) : inNet ip net 0 = (ip.length == net.length) := by
  simp [inNet]

def internalIP (ip : List Nat) : Bool := privateNetworks.any (fun n => inNet ip n.2.1 n.2.2)

def internalSuffixes : List String := [".localhost", ".local", ".internal", ".home.arpa"]

/-- `SubjectIsInternal`, given the lower-cased host without port and trailing dot and the
bytes of `net.ParseIP` of it (`[]` if it is not an IP address) -/
def internalHost (h : List Char) (ip : List Nat) : Bool :=
  h == "localhost".toList || internalSuffixes.any (fun suf => endsWith h suf.toList) || internalIP ip

end CM.Account
