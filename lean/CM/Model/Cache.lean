/-
C12 — model of the certificate cache (`cache.go`) and of every write to its two maps from
`handshake.go` and `maintain.go`.

`Cache.cache      : map[hash]Certificate`  is the association list `State.cache`,
`Cache.cacheIndex : map[name][]hash`       is the association list `State.index`
(the ORDER of the hashes of one name is kept: `append` adds at the end, removal filters),
`CacheOptions.Capacity`                    is `State.cap` (0 = unlimited).

A Go map is modelled by `get?`/`put`/`erase` on association lists (`put` = erase, then cons:
the position of a key carries no meaning; the driver compares sorted renderings).

Every operation is one critical section of `Cache.mu` in the source. The random eviction
victim (`weakrand.Intn` + map iteration order) is an INPUT of the `add`/`replace` events, so
that every possible choice is covered by the theorems.

The handshake's write-back (`handshakeMaintenance`) is modelled AFTER the `fix:` patch D6:
the copy is stored only if its hash is still a key of the cache.
-/
namespace CM.Cache

abbrev Hash := String
abbrev Name := List Char
abbrev Tag := String

/-- the part of `certmagic.Certificate` the cache logic looks at; `ari` stands for the
payload that the staple/renewal-information write-backs change (observable in the harness) -/
structure Cert where
  hash : Hash
  names : List Name
  tags : List Tag
  managed : Bool
  issuer : String
  ari : Nat
  deriving DecidableEq, Repr

/-- Go's zero `Certificate{}` (what `certCache.cache[h]` yields for an absent key) -/
def zeroCert : Cert := { hash := "", names := [], tags := [], managed := false, issuer := "", ari := 0 }

/-! ### Go maps as association lists -/

def get? [DecidableEq α] (k : α) : List (α × β) → Option β
  | [] => none
  | (k', v) :: r => if k' = k then some v else get? k r

def erase [DecidableEq α] (k : α) (l : List (α × β)) : List (α × β) :=
  l.filter (fun p => decide (p.1 ≠ k))

def put [DecidableEq α] (k : α) (v : β) (l : List (α × β)) : List (α × β) :=
  (k, v) :: erase k l

def keys (l : List (α × β)) : List α := l.map (·.1)

structure State where
  cache : List (Hash × Cert)
  index : List (Name × List Hash)
  cap : Nat
  deriving Repr, DecidableEq

def init (cap : Nat) : State := { cache := [], index := [], cap := cap }

/-- `certCache.cacheIndex[name]` (nil when absent) -/
def idxGet (idx : List (Name × List Hash)) (n : Name) : List Hash := (get? n idx).getD []

def hashesOf (s : State) (n : Name) : List Hash := idxGet s.index n

/-- one iteration of the outer loop of `removeCertificate`: delete all mentions of `h`
under `n`; delete the key when nothing is left -/
def unindex (h : Hash) (idx : List (Name × List Hash)) (n : Name) : List (Name × List Hash) :=
  let l := (idxGet idx n).filter (fun x => decide (x ≠ h))
  if l = [] then erase n idx else put n l idx

/-- `removeCertificate(cert)` -/
def removeCert (c : Cert) (s : State) : State :=
  { s with index := c.names.foldl (unindex c.hash) s.index, cache := erase c.hash s.cache }

/-- one iteration of the index update of `unsyncedCacheCertificate` -/
def addIndex (h : Hash) (idx : List (Name × List Hash)) (n : Name) : List (Name × List Hash) :=
  put n (idxGet idx n ++ [h]) idx

/-- the tail of `unsyncedCacheCertificate`: store the certificate and index its names -/
def insertNew (c : Cert) (s : State) : State :=
  { s with cache := put c.hash c s.cache, index := c.names.foldl (addIndex c.hash) s.index }

/-- the tag loop of `unsyncedCacheCertificate` (issue #211) -/
def mergeTags (old new : List Tag) : List Tag :=
  new.foldl (fun ts t => if t ∈ ts then ts else ts ++ [t]) old

def atCapacity (s : State) : Bool := decide (s.cap > 0) && decide (s.cache.length ≥ s.cap)

/-- `unsyncedCacheCertificate(cert)`; `victim` = hash of the randomly evicted certificate
(must be given exactly when the cache is at capacity and the certificate is new) -/
def addCert (c : Cert) (victim : Option Hash) (s : State) : Option State :=
  match get? c.hash s.cache with
  | some e =>
    match victim with
    | some _ => none
    | none =>
      if c.tags = [] then some s
      else some { s with cache := put c.hash { e with tags := mergeTags e.tags c.tags } s.cache }
  | none =>
    if atCapacity s then
      match victim with
      | none => none
      | some v =>
        match get? v s.cache with
        | none => none
        | some vc => some (insertNew c (removeCert vc s))
    else
      match victim with
      | some _ => none
      | none => some (insertNew c s)

/-- `Cache.Remove(hashes)`: `cert := cache[h]; removeCertificate(cert)` for each -/
def removeHashes (hs : List Hash) (s : State) : State :=
  hs.foldl (fun s h => removeCert ((get? h s.cache).getD zeroCert) s) s

/-- `getAllMatchingCerts(subject)` -/
def matching (s : State) (n : Name) : List Cert :=
  (hashesOf s n).map (fun h => (get? h s.cache).getD zeroCert)

/-- the delete queue of `RemoveManaged` for one subject -/
def managedQueue (s : State) (subj : Name × String) : List Hash :=
  ((matching s subj.1).filter (fun c => c.managed && (subj.2 = "" || c.issuer = subj.2))).map (·.hash)

/-- `Cache.RemoveManaged(subjects)` -/
def removeManaged (subjects : List (Name × String)) (s : State) : State :=
  removeHashes (subjects.flatMap (managedQueue s)) s

/-- a caller's copy `c` is consistent with the cache: if its hash is cached, the cached
certificate has the same names (names are a function of the chain, hence of the hash) -/
def agrees (s : State) (c : Cert) : Bool :=
  match get? c.hash s.cache with
  | some e => decide (e.names = c.names)
  | none => true

/-- guarded read-modify-write of `updateOCSPStaples` / `updateARI` (maintain.go) -/
def ariWriteBack (h : Hash) (stamp : Nat) (s : State) : State :=
  match get? h s.cache with
  | some e => { s with cache := put h { e with ari := stamp } s.cache }
  | none => s

/-- write-back of the handshake's copy (`handshakeMaintenance`), guarded (fix D6) -/
def hsWriteBack (c : Cert) (s : State) : State :=
  match get? c.hash s.cache with
  | some _ => { s with cache := put c.hash c s.cache }
  | none => s

/-- the write-back as it was before the fix (kept to state what was wrong) -/
def hsWriteBackUnguarded (c : Cert) (s : State) : State :=
  { s with cache := put c.hash c s.cache }

inductive Ev
  | add (c : Cert) (victim : Option Hash)            -- cacheCertificate / CacheUnmanaged… / CacheManagedCertificate
  | remove (hs : List Hash)                          -- Cache.Remove
  | removeManaged (subjects : List (Name × String))  -- Cache.RemoveManaged
  | replace (old new : Cert) (victim : Option Hash)  -- replaceCertificate
  | removeCopy (c : Cert)                            -- mu.Lock(); removeCertificate(copy) (renewDynamicCertificate, forceRenew, queueRenewalTask)
  | ariWB (h : Hash) (stamp : Nat)                   -- guarded write-backs of maintain.go
  | hsWB (c : Cert)                                  -- the handshake's write-back
  deriving Repr

/-- one critical section. `none` = the event is not a behaviour of the code (a certificate
with an empty hash, a caller's copy whose names contradict the cached ones, a wrong victim) -/
def step (s : State) : Ev → Option State
  | .add c v => if c.hash = "" then none else addCert c v s
  | .remove hs => some (removeHashes hs s)
  | .removeManaged subjects => some (removeManaged subjects s)
  | .replace old new v =>
    if new.hash = "" then none else if agrees s old then addCert new v (removeCert old s) else none
  | .removeCopy c => if agrees s c then some (removeCert c s) else none
  | .ariWB h stamp => some (ariWriteBack h stamp s)
  | .hsWB c => if agrees s c then some (hsWriteBack c s) else none

/-- a finite history -/
def run (s : State) : List Ev → Option State
  | [] => some s
  | e :: es => match step s e with
    | some s' => run s' es
    | none => none

/-! ### the invariant, as a proposition and as an executable check -/

structure Inv (s : State) : Prop where
  /-- no hash is stored twice -/
  nodupC : (keys s.cache).Nodup
  nodupI : (keys s.index).Nodup
  /-- keys are the hashes of their certificates, and never the empty string -/
  keyHash : ∀ h c, get? h s.cache = some c → c.hash = h ∧ h ≠ ""
  /-- index and cache agree in both directions, with multiplicity: `h` is listed under `n`
  exactly as often as `n` occurs among the names of the cached certificate `h` (0 if `h`
  is not cached) -/
  agree : ∀ n h, (hashesOf s n).count h =
    match get? h s.cache with
    | some c => c.names.count n
    | none => 0
  /-- no index key with an empty list (removal deletes the key) -/
  noEmpty : ∀ n l, get? n s.index = some l → l ≠ []
  /-- within capacity -/
  capOK : s.cap > 0 → s.cache.length ≤ s.cap

/-- for the driver's coverage tag (CM/Drv/C12); `invCheck` does not use it -/
def dedup [DecidableEq α] : List α → List α
  | [] => []
  | a :: r => if a ∈ r then dedup r else a :: dedup r

def nodupB [DecidableEq α] : List α → Bool
  | [] => true
  | a :: r => !(decide (a ∈ r)) && nodupB r

/-- executable form of `Inv`: `none` = holds, `some reason` = the first part that fails.
The quantifiers of `agree` range over the names and hashes that occur in the state. -/
def invCheck (s : State) : Option String :=
  let names := keys s.index ++ s.cache.flatMap (fun p => p.2.names)
  let hashes := keys s.cache ++ s.index.flatMap (fun p => p.2)
  if !nodupB (keys s.cache) then some "duplicate-hash"
  else if !nodupB (keys s.index) then some "duplicate-index-key"
  else if s.cache.any (fun p => decide (p.2.hash ≠ p.1) || decide (p.1 = "")) then some "key-not-hash"
  else if s.index.any (fun p => decide (p.2 = [])) then some "empty-index-entry"
  else if decide (s.cap > 0) && decide (s.cache.length > s.cap) then some "over-capacity"
  else if hashes.any (fun h => (get? h s.cache).isNone && names.any (fun n => decide ((hashesOf s n).count h ≠ 0)))
    then some "index-mentions-uncached-hash"
  else if s.cache.any (fun p => p.2.names.any (fun n => decide ((hashesOf s n).count p.1 < p.2.names.count n)))
    then some "cached-cert-not-indexed"
  else if s.cache.any (fun p => names.any (fun n => decide ((hashesOf s n).count p.1 > p.2.names.count n)))
    then some "index-lists-cert-under-foreign-name"
  else none

end CM.Cache
