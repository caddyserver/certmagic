import CM.Lib.Upd
/-
C10 — labelled transition system of the write protocol of `FileStorage.Store`
(filestorage.go L81-L99 + internal/atomicfile/file.go) and of `FileStorage.Load`
(`os.ReadFile`: open, read until EOF), for ONE destination name, any number of writers
and readers, any interleaving, writer death at any step.

    Store:  MkdirAll; f = CreateTemp(dir(dst))      -- wCreate : a fresh inode under a temp name
            f.Write(value)                            -- wWrite n: the next n bytes (any chunking)
              on a write error: f.Close; Remove(tmp)  -- wCancel
            f.Sync                                    -- wSync   (only after the whole value was written)
            f.Close                                   -- wClose
            Rename(tmp, dst)                          -- wRename : atomically rebinds the name dst
    Load:   open(dst)                                 -- rOpen   : binds the inode the name has NOW
            read … until EOF                          -- rRead n / rEOF
    kill -9 of a writer at any point                  -- wCrash

POSIX facts assumed (DESIGN §4): `rename` within one directory atomically replaces the
binding of the name; an open file descriptor keeps reading the inode it was opened on;
`CreateTemp` yields a name nobody else uses.

Bytes are `Nat`s. `val w` is the value writer `w` was asked to store (every `Store` call
is its own writer). Ghost state: `renamed` — the writers whose rename has happened, in
order; each reader remembers `renamed.length` at its `open`.
-/
namespace CM.AtomicFile

abbrev Bytes := List Nat

inductive WPC where
  | idle
  | writing (i : Nat)     -- temp file open on inode i
  | synced (i : Nat)
  | closed (i : Nat)
  | done                  -- rename performed, Store returned nil
  | cancelled             -- write error: temp removed, Store returned the error
  | crashed               -- killed before its rename
  | crashedAfter          -- killed after its rename (before Store returned)
  deriving DecidableEq, Repr

inductive RPC where
  | idle
  | reading (i : Nat) (buf : Bytes) (at_ : Nat)   -- at_ = number of renames before the open
  | done (res : Option Bytes) (at_ : Nat)         -- none = not-exist
  deriving DecidableEq, Repr

structure State where
  dst     : Option Nat        -- inode bound to the destination name
  ino     : Nat → Bytes       -- inode contents
  next    : Nat               -- inodes ≥ next are unused
  w       : Nat → WPC
  r       : Nat → RPC
  renamed : List Nat          -- ghost: order of renames

inductive Ev where
  | wCreate (w : Nat) | wWrite (w n : Nat) | wCancel (w : Nat) | wSync (w : Nat) | wClose (w : Nat)
  | wRename (w : Nat) | wCrash (w : Nat)
  | rOpen (r : Nat) | rRead (r n : Nat) | rEOF (r : Nat)
  deriving DecidableEq, Repr

def upd {α : Type} (f : Nat → α) (k : Nat) (v : α) : Nat → α := fun x => if x = k then v else f x

@[simp] theorem upd_same {α : Type} {f : Nat → α} {k : Nat} {v : α} : upd f k v k = v := if_pos rfl
theorem upd_other {α : Type} {f : Nat → α} {k x : Nat} {v : α} (h : x ≠ k) : upd f k v x = f x := if_neg h

theorem upd_self {α : Type} (f : Nat → α) (k : Nat) : upd f k (f k) = f := Upd.upd_self f k

/-- the system is parameterised by what each writer stores -/
def step (val : Nat → Bytes) (s : State) : Ev → Option State
  | .wCreate w =>
    match s.w w with
    | .idle => some { s with ino := upd s.ino s.next [], next := s.next + 1, w := upd s.w w (.writing s.next) }
    | _ => none
  | .wWrite w n =>
    match s.w w with
    | .writing i =>
      let have_ := (s.ino i).length
      if 0 < n ∧ have_ < (val w).length then
        some { s with ino := upd s.ino i (s.ino i ++ ((val w).drop have_).take n) }
      else none
    | _ => none
  | .wCancel w =>
    match s.w w with
    | .writing _ => some { s with w := upd s.w w .cancelled }
    | _ => none
  | .wSync w =>
    match s.w w with
    | .writing i => if (s.ino i).length = (val w).length then some { s with w := upd s.w w (.synced i) } else none
    | _ => none
  | .wClose w =>
    match s.w w with
    | .synced i => some { s with w := upd s.w w (.closed i) }
    | _ => none
  | .wRename w =>
    match s.w w with
    | .closed i => some { s with dst := some i, w := upd s.w w .done, renamed := s.renamed ++ [w] }
    | _ => none
  | .wCrash w =>
    match s.w w with
    | .writing _ => some { s with w := upd s.w w .crashed }
    | .synced _ => some { s with w := upd s.w w .crashed }
    | .closed _ => some { s with w := upd s.w w .crashed }
    | .done => some { s with w := upd s.w w .crashedAfter }
    | _ => none
  | .rOpen r =>
    match s.r r with
    | .idle =>
      match s.dst with
      | some i => some { s with r := upd s.r r (.reading i [] s.renamed.length) }
      | none => some { s with r := upd s.r r (.done none s.renamed.length) }
    | _ => none
  | .rRead r n =>
    match s.r r with
    | .reading i buf a =>
      if 0 < n ∧ buf.length < (s.ino i).length then
        some { s with r := upd s.r r (.reading i (buf ++ ((s.ino i).drop buf.length).take n) a) }
      else none
    | _ => none
  | .rEOF r =>
    match s.r r with
    | .reading i buf a =>
      if (s.ino i).length ≤ buf.length then some { s with r := upd s.r r (.done (some buf) a) } else none
    | _ => none

def run (val : Nat → Bytes) : State → List Ev → Option State
  | s, [] => some s
  | s, e :: es => match step val s e with
    | some s' => run val s' es
    | none => none

/-- initial state: the destination is absent (`init = none`) or holds a complete value;
all writers and readers idle -/
def initState (init : Option Bytes) : State where
  dst := init.map (fun _ => 0)
  ino := fun _ => init.getD []
  next := 1
  w := fun _ => .idle
  r := fun _ => .idle
  renamed := []

inductive Reachable (val : Nat → Bytes) (init : Option Bytes) : State → Prop where
  | init : Reachable val init (initState init)
  | step {s s' : State} {e : Ev} : Reachable val init s → step val s e = some s' → Reachable val init s'

/-- what `FileStorage.Store` does on its main path, in the vocabulary of the translator
(`"new"` is `atomicfile.New`, `"close"` is `atomicFile.Close`) -/
def storeProtocol : List String := ["mkdirall", "new", "write", "close"]

/-- what `atomicFile.Close` does, in the same vocabulary: the order of a writer's last steps
that the LTS enforces (`step` enables `wSync` only once the whole value is written, `wClose`
only after `wSync`, `wRename` only after `wClose`) -/
def closeProtocol : List String := ["sync", "close", "rename"]

/-- the value the destination name has after the renames `h`: the last renamer's value,
or the initial one -/
def current (val : Nat → Bytes) (init : Option Bytes) (h : List Nat) : Option Bytes :=
  match h.getLast? with
  | some w => some (val w)
  | none => init

/-- what a `Load` that starts now would return -/
def dstContent (s : State) : Option Bytes := s.dst.map s.ino

end CM.AtomicFile
