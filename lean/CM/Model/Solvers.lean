/-
C16 — labelled transition system of the resources that solving ACME challenges creates.

Written after the code (solvers.go, with the `fix:` patches D13 and D13b applied):

  solverWrapper.Present / CleanUp        memory entry `activeChallenges[key]` set / deleted, then the wrapped solver
  distributedSolver.Present / CleanUp    token file stored / deleted (the delete with a context that cannot be
                                          cancelled), and the embedded solver's Present / CleanUp run *whatever*
                                          the storage said (D13)
  httpSolver.Present / CleanUp           `solvers[addr]`: count++ ; listener opened if we have none and the
                                          bind succeeds (address in use by somebody else: tolerated; other bind
                                          error: reported) / count-- ; at 0 the listener is closed and the
                                          entry deleted
  tlsALPNSolver.Present / CleanUp        the same, after making the challenge certificate; if that fails the
                                          challenge is still counted (D13b)
  DNS01Solver.Present / CleanUp          record appended at the provider and remembered by (name, value) /
                                          remembered record deleted at the provider with a fresh context and
                                          forgotten (always)

`acmez` calls `CleanUp` exactly once for every `Present` it made, after it, whether or not
`Present` failed, with the caller's — possibly cancelled — context (client.go,
solveChallenges / pollAuthorization). That discipline is the guard of `step`.
Addresses, identifier keys, record names and values are natural numbers here.
-/
namespace CM.Solvers

inductive Typ | http | alpn | dns
  deriving DecidableEq, Repr

/-- a challenge: which solver stack it goes through and which resources it names -/
structure Ch where
  id    : Nat
  typ   : Typ
  addr  : Nat      -- listen address of the HTTP-01 / TLS-ALPN-01 solver
  key   : Nat      -- identifier key: memory key, and token file under the issuer's prefix
  rname : Nat      -- DNS-01: record name
  rval  : Nat      -- DNS-01: record value (digest of the key authorisation)
  deriving DecidableEq, Repr

inductive Bind | ok | inUse | err
  deriving DecidableEq, Repr

/-- what the environment does to one `Present` call -/
structure PRes where
  store : Bool     -- the token store succeeds (false: storage error, or the context is already cancelled)
  cert  : Bool     -- the TLS-ALPN challenge certificate can be made
  bind  : Bind     -- outcome of `net.Listen`, *if* it is attempted
  prov  : Bool     -- DNS-01: zone found and `AppendRecords` succeeded
  deriving DecidableEq, Repr

/-- what the environment does to one `CleanUp` call -/
structure CRes where
  cancelled : Bool -- the caller's context is cancelled
  del       : Bool -- the storage `Delete` succeeds (given a live context)
  prov      : Bool -- DNS-01: the provider's `DeleteRecords` succeeds
  deriving DecidableEq, Repr

inductive Ev
  | present (c : Ch) (r : PRes)
  | cleanUp (c : Ch) (r : CRes)

structure State where
  cnt      : Nat → Int            -- `solvers[addr].count` (0 where there is no entry)
  lis      : Nat → Bool           -- `solvers[addr].listener != nil`: our listener is open
  ent      : Nat → Bool           -- `solvers` has an entry for addr
  tok      : Nat → Bool           -- token file exists
  mem      : Nat → Bool           -- `activeChallenges` has the key
  recMem   : List (Nat × Nat)     -- `DNSManager.records`, flattened: (name, value)
  provider : List (Nat × Nat)     -- the provider's TXT records (name, value)
  active   : List Ch              -- ghost: presented and not yet cleaned up

def State.init (p0 : List (Nat × Nat)) : State :=
  { cnt := fun _ => 0, lis := fun _ => false, ent := fun _ => false, tok := fun _ => false,
    mem := fun _ => false, recMem := [], provider := p0, active := [] }

def upd {α : Type} (f : Nat → α) (k : Nat) (v : α) : Nat → α := fun x => if x = k then v else f x

/-- `httpSolver.Present` / the second half of `tlsALPNSolver.Present` -/
def listenPresent (s : State) (a : Nat) (b : Bind) : State :=
  { s with cnt := upd s.cnt a (s.cnt a + 1), ent := upd s.ent a true
           lis := upd s.lis a (s.lis a || b == .ok) }

/-- `httpSolver.CleanUp` / `tlsALPNSolver.CleanUp`: count--; at 0 the listener is closed and
the entry deleted (otherwise `getSolverInfo` has made sure there is an entry) -/
def listenCleanUp (s : State) (a : Nat) : State :=
  { s with cnt := upd s.cnt a (s.cnt a - 1)
           lis := upd s.lis a (if s.cnt a - 1 = 0 then false else s.lis a)
           ent := upd s.ent a (decide (s.cnt a - 1 ≠ 0)) }

/-- `solverWrapper.Present` ∘ `distributedSolver.Present` (HTTP-01, TLS-ALPN-01) -/
def storePresent (s : State) (c : Ch) (r : PRes) : State :=
  { s with mem := upd s.mem c.key true, tok := upd s.tok c.key (r.store || s.tok c.key) }

/-- `solverWrapper.CleanUp` ∘ `distributedSolver.CleanUp`: the delete does not depend on the
caller's context -/
def storeCleanUp (s : State) (c : Ch) (r : CRes) : State :=
  { s with mem := upd s.mem c.key false, tok := upd s.tok c.key (!r.del && s.tok c.key) }

/-- what the calls do (no guard). `tlsALPNSolver.Present` without a challenge certificate
counts the challenge and attempts no bind — the same effect as a bind that fails. -/
def apply (s : State) : Ev → State
  | .present c r =>
    let s := { s with active := c :: s.active }
    match c.typ with
    | .http => listenPresent (storePresent s c r) c.addr r.bind
    | .alpn => listenPresent (storePresent s c r) c.addr (if r.cert then r.bind else .err)
    | .dns =>
      { s with mem := upd s.mem c.key true
               provider := if r.prov then (c.rname, c.rval) :: s.provider else s.provider
               recMem := if r.prov then s.recMem ++ [(c.rname, c.rval)] else s.recMem }
  | .cleanUp c r =>
    let s := { s with active := s.active.erase c }
    match c.typ with
    | .http => listenCleanUp (storeCleanUp s c r) c.addr
    | .alpn => listenCleanUp (storeCleanUp s c r) c.addr
    | .dns =>
      { s with mem := upd s.mem c.key false
               provider := if (c.rname, c.rval) ∈ s.recMem ∧ r.prov = true
                           then s.provider.erase (c.rname, c.rval) else s.provider
               recMem := s.recMem.erase (c.rname, c.rval) }

/-- acmez's discipline: `CleanUp` only for a challenge that was presented and not yet cleaned -/
def step (s : State) (e : Ev) : Option State :=
  match e with
  | .present _ _ => some (apply s e)
  | .cleanUp c _ => if c ∈ s.active then some (apply s e) else none

def run (s : State) : List Ev → Option State
  | [] => some s
  | e :: es => match step s e with
    | some s' => run s' es
    | none => none

/-- reachable from the initial state (provider holding `p0`) by events all satisfying `P` -/
inductive Reach (P : Ev → Prop) (p0 : List (Nat × Nat)) : State → Prop
  | init : Reach P p0 (State.init p0)
  | next {s s' : State} {e : Ev} : Reach P p0 s → P e → step s e = some s' → Reach P p0 s'

def Typ.listens : Typ → Bool
  | .http => true
  | .alpn => true
  | .dns => false

def Typ.isDNS : Typ → Bool
  | .dns => true
  | _ => false

/-- does the challenge use listen address `a`? -/
def uses (a : Nat) (c : Ch) : Bool := c.typ.listens && c.addr == a

/-- is the challenge a DNS-01 challenge for record `p`? -/
def hasRec (p : Nat × Nat) (c : Ch) : Bool := c.typ.isDNS && (c.rname, c.rval) == p

/-- restrictions on the environment that some theorems assume, three of them; this one: none -/
def anyEv : Ev → Prop := fun _ => True
/-- the storage does not fail a `Delete` issued with a live context -/
def storageDeletes : Ev → Prop
  | .cleanUp _ r => r.del = true
  | _ => True
/-- the DNS provider does not fail `DeleteRecords` -/
def providerDeletes : Ev → Prop
  | .cleanUp _ r => r.prov = true
  | _ => True

end CM.Solvers
