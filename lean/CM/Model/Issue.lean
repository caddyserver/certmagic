/-
C01 — labelled transition system of certificate issuance for ONE subject shared by any
number of requests (goroutines, processes, instances) over one storage + locker.

Written after `Config.obtainCert`, `Config.renewCert`, `Config.manageOne` (config.go),
`storeTx` (storage.go), `doWithRetry` (async.go):

  obtain : pre-check "storage has the bundle" ⇒ done | Lock ⇒ re-check ⇒ done | issue ⇒ save ⇒ Unlock
  renew  : Lock ⇒ load + "still due?" ⇒ done | issue ⇒ save ⇒ Unlock          (force = false)
  manage : load ⇒ (absent ⇒ behaves as obtain) | (due ⇒ behaves as renew) | done
  async  : a failed attempt is retried INSIDE the lock (doWithRetry wraps only the inner closure)

Processes are indexed by `Nat` (unbounded number); `due : Ver → Bool` says whether a
stored version is inside its renewal window (constant during a run: the run is short
relative to certificate lifetimes). One event = one atomic action of the real code at the
granularity of calls to Storage / Locker / Issuer.
-/
namespace CM.Issue

abbrev Ver := Nat

inductive Kind | obtain | renew | manage
  deriving DecidableEq, Repr

inductive PC
  | start
  | wantLock                 -- about to call Lock
  | recheck                  -- holds the lock, about to re-check storage
  | issueBegin               -- decided to ask the issuer
  | issuing                  -- inside Issuer.Issue
  | save                     -- issuer succeeded; about to store the bundle
  | failed                   -- attempt failed (issuer or storage); still holds the lock
  | release (ok : Bool)      -- about to Unlock
  | done (ok : Bool)
  | dead                     -- process died (possibly holding the lock)
  deriving DecidableEq, Repr

def PC.inCS : PC → Bool
  | .recheck | .issueBegin | .issuing | .save | .failed | .release _ => true
  | _ => false

def PC.wantsIssue : PC → Bool
  | .issueBegin | .issuing | .save => true
  | _ => false

structure St where
  lock      : Option Nat
  stored    : Option Ver
  next      : Ver
  pc        : Nat → PC
  kind      : Nat → Kind
  async     : Nat → Bool
  budget    : Nat → Nat        -- retries an async request still has (doWithRetry gives up after maxRetryDuration)
  contacted : Nat → Bool       -- ghost: has this request called the issuer?
  issuedBy  : Nat → Nat        -- ghost: successful issuances per request; only the example run of Props/C01 reads it

inductive Ev
  | pre (p : Nat)
  | acq (p : Nat)
  | recheck (p : Nat)
  | issueBegin (p : Nat)
  | issueEnd (p : Nat) (ok : Bool)
  | saveOk (p : Nat)
  | saveFail (p : Nat) (k : Nat)     -- the k-th of the three stores failed (k = 0,1,2); roll-back restores the earlier ones
  | retry (p : Nat)
  | giveUp (p : Nat)
  | rel (p : Nat)
  | die (p : Nat)
  | expire                           -- a dead holder's lock is taken over (stale lock)
  deriving Repr

def upd {α} (f : Nat → α) (p : Nat) (v : α) : Nat → α := fun q => if q = p then v else f q

@[simp] theorem upd_same {α} (f : Nat → α) (p : Nat) (v : α) : upd f p v p = v := if_pos rfl
theorem upd_other {α} {f : Nat → α} {p q : Nat} {v : α} (h : q ≠ p) : upd f p v q = f q := if_neg h

def isDue (due : Ver → Bool) : Option Ver → Bool
  | none => false
  | some v => due v

/-- a bundle is stored and it is outside its renewal window -/
def fresh (due : Ver → Bool) (s : St) : Bool :=
  match s.stored with
  | none => false
  | some v => !due v

def step (due : Ver → Bool) (s : St) : Ev → Option St
  | .pre p =>
    if s.pc p = .start then
      match s.kind p with
      | .obtain => some { s with pc := upd s.pc p (if s.stored.isSome then .done true else .wantLock) }
      | .renew => some { s with pc := upd s.pc p .wantLock }
      | .manage =>
        match s.stored with
        | none => some { s with kind := upd s.kind p .obtain }
        | some v => if due v then some { s with kind := upd s.kind p .renew }
                    else some { s with pc := upd s.pc p (.done true) }
    else none
  | .acq p =>
    if s.pc p = .wantLock ∧ s.lock = none then
      some { s with lock := some p, pc := upd s.pc p .recheck }
    else none
  | .recheck p =>
    if s.pc p = .recheck then
      match s.kind p with
      | .renew =>
        match s.stored with
        | none => some { s with pc := upd s.pc p .failed }           -- nothing to renew: load error
        | some v => some { s with pc := upd s.pc p (if due v then .issueBegin else .release true) }
      | _ => some { s with pc := upd s.pc p (if s.stored.isSome then .release true else .issueBegin) }
    else none
  | .issueBegin p =>
    if s.pc p = .issueBegin then
      some { s with pc := upd s.pc p .issuing, contacted := upd s.contacted p true }
    else none
  | .issueEnd p ok =>
    if s.pc p = .issuing then
      some { s with pc := upd s.pc p (if ok then .save else .failed),
                    issuedBy := if ok then upd s.issuedBy p (s.issuedBy p + 1) else s.issuedBy }
    else none
  | .saveOk p =>
    if s.pc p = .save then
      some { s with stored := some s.next, next := s.next + 1, pc := upd s.pc p (.release true) }
    else none
  | .saveFail p _k =>
    if s.pc p = .save then
      -- storeTx rolls back: the keys already written are put back to what they held before
      -- (after the `fix:` commit; it used to delete them, destroying the previous bundle)
      some { s with pc := upd s.pc p .failed }
    else none
  | .retry p =>
    if s.pc p = .failed ∧ s.async p = true ∧ 0 < s.budget p then
      some { s with pc := upd s.pc p .recheck, budget := upd s.budget p (s.budget p - 1) }
    else none
  | .giveUp p =>
    if s.pc p = .failed then some { s with pc := upd s.pc p (.release false) } else none
  | .rel p =>
    match s.pc p with
    | .release ok => some { s with lock := none, pc := upd s.pc p (.done ok) }
    | _ => none
  | .die p =>
    match s.pc p with
    | .done _ => none
    | .dead => none
    | _ => some { s with pc := upd s.pc p .dead }
  | .expire =>
    match s.lock with
    | some q => if s.pc q = .dead then some { s with lock := none } else none
    | none => none

/-- initial states: nobody has started, nobody holds the lock; storage may already hold a
bundle (version 0) or not -/
def initial (s : St) : Prop :=
  s.lock = none ∧ (∀ p, s.pc p = .start) ∧ (∀ p, s.contacted p = false) ∧ (∀ p, s.issuedBy p = 0) ∧
  (s.stored = none ∨ s.stored = some 0) ∧ s.next = 1

/-- executable run: the runs the theorems quantify over (the driver's `replay` iterates the same `step`) -/
def run (due : Ver → Bool) : St → List Ev → Option St
  | s, [] => some s
  | s, e :: es => match step due s e with
    | some s' => run due s' es
    | none => none

inductive Reach (due : Ver → Bool) : St → Prop
  | init {s} : initial s → Reach due s
  | step {s e s'} : Reach due s → step due s e = some s' → Reach due s'

end CM.Issue
