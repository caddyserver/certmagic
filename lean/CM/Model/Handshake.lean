import CM.Lib.Prog
/-
One TLS handshake of certmagic as an effect program (C02; C13's tie reads `maxAttempts`), written after
handshake.go WITH the three repairs D5, D9, D3b applied:

  GetCertificateWithContext → getCertDuringHandshake(load = true)        `getCert`
  getCertDuringHandshake(load = false)  (re-entry after a wait)          `reentry`
  optionalMaintenance, loadCertFromStorage, obtainOnDemandCertificate,
  handshakeMaintenance (+ its closure renewIfNecessary and the ARI goroutine),
  renewDynamicCertificate (+ its closure renewAndReload, foreground or goroutine),
  checkIfCertShouldBeObtained, obtainCert / renewCert / forceRenew (config.go, maintain.go)
  reduced to their storage / issuer calls, SubjectQualifiesForCert (certificates.go).

Every call to a double and every read of shared in-process state is an effect with a
Boolean response. What is abstracted:
 * the name: the program depends on the handshake's name only through `Facts`
   (IDNA conversion succeeded, the name qualifies syntactically, allow-list verdict);
   effects carry a tag saying which name they concern (`Nm`);
 * a re-entry `getCertDuringHandshake(ctx, hello, false)` is the one effect `reenter`
   (did it return a certificate?); the code it runs is the separate program `reentry`.
   Re-entries occur only after a wait and perform no load/issue themselves; the gating
   flag is *reset* by a `reenter` event, so nothing after it may rely on an earlier permit;
 * retries of the non-interactive obtain/renew (`doWithRetry`) are cut at `maxAttempts`
   attempts — as many as fit into the longest worker time-out (tie: C13 constants);
 * OCSP staple refresh inside handshakeMaintenance is left out (no certificate load or
   issuer call); certificate parsing errors are folded into "load failed".
-/
namespace CM.Handshake
open CM.Prog

/-- which name an effect concerns -/
inductive Nm
  | hello   -- the (normalised) server name of this handshake
  | wild    -- the same with its left-most label replaced by `*`
  | cert0   -- `cert.Names[0]` of the certificate being maintained
  deriving DecidableEq, Repr

inductive Eff
  -- in-process state the handshake reads (invisible to the doubles)
  | cacheHit | cacheDefault | managed | needsRenewal | timeLeftPos | revoked | keyCompromise | ariDue
  | storedDue                      -- renewCert's re-check of the stored bundle
  | loadChan | obtainChan          -- is there an entry in certLoadWaitChans / obtainCertWaitChans ?
  | waitLoad | waitObtain          -- select: true = channel closed, false = time-out / cancelled
  | retry                          -- doWithRetry: another attempt before the deadline?
  | reenter                        -- getCertDuringHandshake(load=false): returned a certificate?
  -- calls to the doubles
  | mgrErr | mgrCert               -- OnDemand.Managers: returned an error? a certificate?
  | gate                           -- DecisionFunc(name): true = permit
  | allow (v : Bool)               -- a policy decision taken without the decision function, verdict v
  | load (n : Nm) | loadNX (n : Nm)  -- load the bundle: found? ; if not: was the error not-exist?
  | has (n : Nm)                   -- storageHasCertResourcesAnyIssuer
  | lock                           -- acquireLock(issue_cert_…): acquired?
  | issue (n : Nm)                 -- Issuer.Issue: ok?
  | save                           -- saveCertResource: ok?
  | ariMeta                         -- ARI refresh (lock, metadata load/store, no certificate material)
  -- single-flight book-keeping and cache mutation (no response)
  | regLoad | unregLoad | regObtain | unblockObtain | removeFromCache
  | fresh                          -- from here on the certificate in hand is the one just obtained
  deriving DecidableEq, Repr

/-- configuration class -/
structure Cfg where
  onDemand : Bool      -- cfg.OnDemand != nil
  func : Bool          -- OnDemand.DecisionFunc != nil (else: the implicit allow-list)
  managers : Bool      -- len(OnDemand.Managers) > 0
  almostFull : Bool    -- capacity > 0 ∧ size ≥ 0.9·capacity
  ari : Bool           -- !DisableARI
  deriving DecidableEq, Repr

/-- what the program needs to know about the handshake's name -/
structure Facts where
  idnaOK : Bool        -- getNameFromClientHello succeeded
  qualifies : Bool     -- SubjectQualifiesForCert(name)
  allow : Bool         -- allow-list empty, or it contains the name (DESIGN §9)
  deriving DecidableEq, Repr

/-- result classes of a handshake -/
inductive Res
  | cur      -- the certificate found in the cache / loaded from storage
  | new      -- a certificate obtained or renewed by this handshake
  | mgr      -- a certificate from an external manager
  | dflt     -- default / fallback certificate
  | re       -- whatever the re-entry returned (a certificate)
  | empty    -- empty certificate with a nil error (never produced by the repaired code; kept as a class the harness can report)
  | err      -- an error
  | none     -- (internal) loadCertFromStorage did not load anything
  deriving DecidableEq, Repr

def Res.enc : Res → Nat
  | .cur => 0 | .new => 1 | .mgr => 2 | .dflt => 3 | .re => 4 | .empty => 5 | .err => 6 | .none => 7
def Res.dec (n : Nat) : Res :=
  if n = 0 then .cur else if n = 1 then .new else if n = 2 then .mgr else if n = 3 then .dflt
  else if n = 4 then .re else if n = 5 then .empty else if n = 6 then .err else .none

instance : Code Res := ⟨Res.enc, Res.dec, fun a => by cases a <;> rfl, fun a => by cases a <;> decide,
  fun a f => f a, fun _ _ => rfl⟩

abbrev P := TProg Eff

def static (v : Bool) : P Bool := do act (.allow v); return v

/-- `checkIfCertShouldBeObtained(ctx, name, requireOnDemand)`; true = nil error -/
def gateCheck (c : Cfg) (f : Facts) (requireOD : Bool) : P Bool :=
  if requireOD && !c.onDemand then static false
  else if !f.qualifies then static false
  else if !c.onDemand then static true
  else if c.func then ask .gate
  else static f.allow

def reenter : P Res := do
  if ← ask .reenter then return .re else return .err

/-- attempts of one non-interactive operation that fit before the worker's deadline -/
def maxAttempts : Nat := 4

/-- `saveCertResource` → `storeTx`: reads the values about to be replaced (to be able to roll
back), then stores key, certificate and metadata; true = nil error -/
def saveBundle (nm : Nm) : P Bool := do
  if !(← ask (.load nm)) then
    if !(← ask (.loadNX nm)) then return false   -- reading the previous values failed
  ask .save

/-- one run of the closure `f` of obtainCert; true = nil error -/
def obtainOnce (nm : Nm) : P Bool := do
  if ← ask (.has nm) then return true          -- obtained meanwhile by somebody else
  if ← ask (.issue nm) then
    if ← call (saveBundle nm) then return true
  return false

/-- `doWithRetry(f)`: at most `n` attempts -/
def retrying (once : P Bool) : Nat → P Bool
  | 0 => pure false
  | n + 1 => do
    if ← call once then return true
    if ← ask .retry then call (retrying once n) else return false

/-- `cfg.obtainCert(ctx, name, interactive=false)`; true = nil error -/
def obtainCert (nm : Nm) : P Bool := do
  if ← ask (.has nm) then return true           -- storage has it: obtain is a no-op
  if !(← ask .lock) then return false
  call (retrying (obtainOnce nm) maxAttempts)

/-- one run of the closure `f` of renewCert -/
def renewOnce (force : Bool) (nm : Nm) : P Bool := do
  if ← ask (.load nm) then
    let due ← if force then pure true else ask .storedDue
    if !due then return true                     -- renewed meanwhile by somebody else
    if ← ask (.issue nm) then
      if ← call (saveBundle nm) then return true
    return false
  else
    let _ ← ask (.loadNX nm)
    return false

/-- `cfg.renewCert(ctx, name, force, interactive=false)` -/
def renewCert (force : Bool) (nm : Nm) : P Bool := do
  if !(← ask .lock) then return false
  call (retrying (renewOnce force nm) maxAttempts)

/-- `reloadManagedCertificate(oldCert)` -/
def reload : P Bool := do
  if ← ask (.load .cert0) then return true
  let _ ← ask (.loadNX .cert0)
  return false

/-- `forceRenew(cert)` (maintain.go) -/
def forceRenew : P Bool := do
  let ok ← (do
    if ← ask .keyCompromise then
      let _ ← ask (.load .cert0)       -- moveCompromisedPrivateKey reads the old key
      call (obtainCert .cert0)
    else call (renewCert true .cert0))
  if !ok then
    act .removeFromCache
    return false
  call reload

/-- the closure `renewAndReload` of renewDynamicCertificate -/
def renewAndReload (c : Cfg) (f : Facts) (rv : Bool) : P Res := do
  if !(← gateCheck c f true) then
    act .removeFromCache
    act .unblockObtain
    return .err
  let ok ← if rv then call forceRenew else (do
    if ← call (renewCert false .hello) then call reload else pure false)
  act .unblockObtain
  return if ok then .new else .err

/-- `renewDynamicCertificate`. `own`: this thread has itself registered the obtain channel
and not yet unblocked it (it is inside obtainOnDemandCertificate's load of the new bundle). -/
def renewDynamic (c : Cfg) (f : Facts) (own : Bool) (rv : Bool) : P Res := do
  if !f.idnaOK then return .err
  let tl ← ask .timeLeftPos
  let present ← if own then pure true else ask .obtainChan
  if present then
    if tl && !rv then return .cur            -- serve current while somebody renews
    if ← ask .waitObtain then reenter else return .err
  else
    act .regObtain
    if tl then
      fork (do let _ ← call (renewAndReload c f rv))
      return .cur
    else call (renewAndReload c f rv)

/-- `loadCertFromStorage` up to the maintenance step: exact name, then wildcard variant -/
def loadBundle : P Bool := do
  if ← ask (.load .hello) then return true
  if !(← ask (.loadNX .hello)) then return false
  if ← ask (.load .wild) then return true
  let _ ← ask (.loadNX .wild)
  return false

/-- `obtainOnDemandCertificate` and `renewDynamicCertificate` as seen by the maintenance
code. They come in two layers: a thread that is inside obtainOnDemandCertificate's load of
the new bundle already owns the obtain channel (`ownedLayer`) and cannot register it again,
so the nesting ends there. -/
structure Layer where
  obtain : P Res                        -- obtainOnDemandCertificate
  renew : Bool → P Res                  -- renewDynamicCertificate (argument: revoked)

/-- the closure `renewIfNecessary` of handshakeMaintenance, with the D5 repair -/
def renewIfNecessary (c : Cfg) (f : Facts) (L : Layer) (rv : Bool) : P Res := do
  if !(← ask .needsRenewal) then return .cur
  if !(← ask (.has .cert0)) then
    -- bundle missing from storage: obtain anew — after asking the policy (D5 repair)
    if !f.idnaOK then return .err
    if !(← gateCheck c f true) then return .err
    call L.obtain
  else call (L.renew rv)

/-- `handshakeMaintenance` -/
def maintenance (c : Cfg) (f : Facts) (L : Layer) (ari : Bool) : P Res := do
  let rv ← ask .revoked
  call (do
    if ari then
      if ← ask .ariDue then
        -- goroutine: updateARI, then renewIfNecessary
        fork (do act .ariMeta; let _ ← call (renewIfNecessary c f L rv)))
  if rv then call (L.renew true)
  else call (renewIfNecessary c f L false)

/-- `loadCertFromStorage` with the D3b repair: a failed maintenance keeps the loaded
certificate and is an error only if that certificate is expired -/
def loadFromStorage (c : Cfg) (f : Facts) (L : Layer) (ari : Bool) : P Res := do
  if !f.idnaOK then return .none
  if !(← call loadBundle) then return .none
  match ← call (maintenance c f L ari) with
  | .err => if ← ask .timeLeftPos then return .cur else return .err
  | r => return r

/-- layer 1: the thread owns the obtain channel -/
def ownedLayer (c : Cfg) (f : Facts) : Layer where
  obtain := do
    if !f.idnaOK then return .err
    -- the map holds this thread's own channel: it waits on it
    if ← ask .waitObtain then reenter else return .err
  renew := renewDynamic c f true

/-- `obtainOnDemandCertificate` (the thread owns no obtain channel yet). The maintenance of
the bundle obtained a moment ago starts no ARI goroutine (a new certificate's renewal
information is not yet due for a refresh — assumption, see props.d/C02.json). -/
def obtainOnDemand (c : Cfg) (f : Facts) : P Res := do
  if !f.idnaOK then return .err
  if ← ask .obtainChan then
    if ← ask .waitObtain then reenter else return .err
  else
    act .regObtain
    let r ← (do
      if ← call (obtainCert .hello) then
        act .fresh
        match ← call (loadFromStorage c f (ownedLayer c f) false) with
        | .none => pure .err
        | .cur => pure .new           -- the bundle loaded here is the one just obtained
        | r => pure r
      else pure .err)
    act .unblockObtain
    return r

/-- layer 0: the thread owns no obtain channel -/
def freeLayer (c : Cfg) (f : Facts) : Layer where
  obtain := obtainOnDemand c f
  renew := renewDynamic c f false

/-- `optionalMaintenance` -/
def optionalMaintenance (c : Cfg) (f : Facts) : P Res := do
  match ← call (maintenance c f (freeLayer c f) c.ari) with
  | .err => if ← ask .timeLeftPos then return .cur else return .err
  | r => return r

/-- `OnDemand.Managers` first (an error or a certificate ends the handshake), then `k`: both entries
pass the policy gate and the default certificate as `k` -/
def managersThen (c : Cfg) (k : P Res) : P Res := do
  if c.onDemand && c.managers then
    if ← ask .mgrErr then return .err
    if ← ask .mgrCert then return .mgr
  k

def defaultOrError : P Res := do
  if ← ask .cacheDefault then return .dflt else return .err

/-- `getCertDuringHandshake(ctx, hello, true)` — a whole handshake -/
def getCert (c : Cfg) (f : Facts) : P Res := do
  if ← ask .cacheHit then
    if c.onDemand then
      if ← ask .managed then call (optionalMaintenance c f) else return .cur
    else return .cur
  else
  if !f.idnaOK then return .err
  if ← ask .loadChan then
    if ← ask .waitLoad then reenter else return .err
  else
  act .regLoad
  let r ← call <| managersThen c (do
    if !(← gateCheck c f false) then return .err
    if c.onDemand || c.almostFull then
      match ← call (loadFromStorage c f (freeLayer c f) c.ari) with
      | .none =>
        if c.onDemand then call (obtainOnDemand c f)
        else defaultOrError        -- not on-demand, nothing in storage: default / fallback / error
      | r => return r
    else defaultOrError)
  act .unregLoad
  return r

/-- `getCertDuringHandshake(ctx, hello, false)` — a re-entry after a wait. `ownLoad`: the
thread is (further up its stack) the load worker for this name; with the D9 repair it then
neither waits on nor re-registers the channel. -/
def reentry (c : Cfg) (f : Facts) (ownLoad : Bool) : P Res := do
  if ← ask .cacheHit then return .cur
  if !f.idnaOK then return .err
  let tail := managersThen c (do
    if !(← gateCheck c f false) then return .err
    defaultOrError)
  if ownLoad then tail
  else if ← ask .loadChan then
    if ← ask .waitLoad then reenter else return .err
  else
    act .regLoad
    let r ← call tail
    act .unregLoad
    return r

/-! ### the gating classification -/

def isIssue : Eff → Bool
  | .issue _ => true
  | _ => false

def isLoad : Eff → Bool
  | .load _ => true
  | _ => false

/-- issuer calls and certificate loads need a permit (while on-demand TLS is enabled) -/
def guardedEff (e : Eff) : Bool := isIssue e || isLoad e

def verdictOf : Eff → Bool → Option Bool
  | .gate, r => some r
  | .allow v, _ => some v
  | .reenter, _ => some false      -- nothing after a re-entry may rely on an earlier permit
  | _, _ => none

def G : Gating Eff := { verdict := verdictOf, guarded := guardedEff }

/-! ### SubjectQualifiesForCert (certificates.go) on lists of characters -/

/-- `unicode.IsSpace` -/
def isSpace (c : Char) : Bool :=
  c = '\t' || c = '\n' || c.toNat = 0x0B || c.toNat = 0x0C || c = '\r' || c = ' ' ||
  c.toNat = 0x85 || c.toNat = 0xA0 || c.toNat = 0x1680 || (0x2000 ≤ c.toNat && c.toNat ≤ 0x200A) ||
  c.toNat = 0x2028 || c.toNat = 0x2029 || c.toNat = 0x202F || c.toNat = 0x205F || c.toNat = 0x3000

/-- the argument of `strings.ContainsAny` in SubjectQualifiesForCert (tie: regenerated) -/
def forbidden : List Char := "()[]{}<> \t\n\"\\!@#$%^&|;'+=".toList

def startsWith (p s : List Char) : Bool := p.isPrefixOf s
def endsWithDot (s : List Char) : Bool := s.getLast? = some '.'

def qualifies (s : List Char) : Bool :=
  !(s.all isSpace) &&                                        -- strings.TrimSpace(subj) != ""
  !startsWith ['.'] s && !endsWithDot s &&
  (!s.contains '*' || startsWith ['*', '.'] s || s = ['*']) &&
  !s.any (fun c => forbidden.contains c)

end CM.Handshake
