/-
C13 — the two single-flight maps of handshake.go as a labelled transition system over ANY
number of handshake threads for one name (threads are indexed by `Nat`; a thread that has
not started is `idle`, so "any number" is "any finite set of started indices").

Written after getCertDuringHandshake (load site), obtainOnDemandCertificate
(obtain site), renewDynamicCertificate (renew site, incl. the goroutine `renewAndReload`) and
the re-entry `getCertDuringHandshake(ctx, hello, false)` after each wait — WITH the D9 repair
(`fix = true`): a re-entering thread that itself owns the registered load channel neither
waits on it nor registers again. `fix = false` is the unrepaired code (used only to exhibit
the defective history).

Shared state: the two maps (`loadCh`, `obtCh`: the registered channel, if any, with the thread
that registered it), which channels are closed, a counter for fresh channels. Per thread: a
program counter and the registrations it holds.

What is abstracted (honest simplifications; see props.d/C13.json):
 * program-counter LTS written from the code, not the continuation LTS of the effect program
   (DESIGN §7, C13); the cache, storage, policy and issuer are the environment: their
   answers are parameters of the events (hit/miss, found, permit, outcome), so every behaviour
   of theirs is covered, including eviction between two looks;
 * one step = one critical section or one call between two yield points; `finish` is the
   atomic "close + delete + unlock" of the obtain map after the worker's outcome (success,
   issuer error, policy denial, cancellation — the outcome is a parameter), `ret` the deferred
   one of the load map;
 * the certificate obtained a moment ago is not itself due (the obtain worker does not enter
   the obtain/renew site again while it holds the channel) — assumption;
 * panics in a worker (which skip the non-deferred unblock) are outside the quantifier (DESIGN §9).
-/
namespace CM.SingleFlight

/-- result classes: the current certificate, another certificate (new / default / whatever a
re-entry found in the cache), an error -/
inductive Res
  | cur | other | err
  deriving DecidableEq, Repr

inductive PC
  | idle
  | lookup (load : Bool)            -- getCertDuringHandshake entered, about to look into the cache
  | loadSF (load : Bool)            -- about to enter the load map's critical section
  | waitLoad (c : Nat)              -- select on a load channel (2 min timer, ctx)
  | gate (load : Bool)              -- managers + policy gate (+ default certificate if !load)
  | loading                         -- loadCertFromStorage in flight (Storage.Load)
  | maint (tl rv : Bool)            -- handshakeMaintenance of a due / revoked certificate
  | obtainSF                        -- obtainOnDemandCertificate: about to enter the obtain map's critical section
  | renewSF (tl rv : Bool)          -- renewDynamicCertificate: about to enter it (timeLeft > 0, revoked)
  | waitObtain (c : Nat)            -- select on an obtain channel (2 min timer)
  | obtaining                       -- ObtainCertAsync + load in flight (holds the obtain channel)
  | renewing (bg : Bool)            -- renewAndReload in flight (foreground / goroutine)
  | unwind (r : Res)                -- returning through the frames with result r
  | done (r : Res)
  deriving DecidableEq, Repr

inductive Ev
  | begin (t : Nat)
  | look (t : Nat) (hit maint tl rv : Bool)       -- cache lookup: hit? needs maintenance? timeLeft > 0? revoked?
  | enterLoad (t : Nat)
  | wake (t : Nat)                                 -- the channel waited on is closed
  | timeout (t : Nat)                              -- the 2 min timer fired / the context was cancelled
  | gated (t : Nat) (permit : Bool) (r : Res)     -- permit: go on loading; otherwise / if !load the answer is r
  | loaded (t : Nat) (found maint tl rv : Bool)
  | maintGo (t : Nat) (missing permit : Bool)     -- bundle missing from storage? (then the D5 gate's verdict)
  | enterObtain (t : Nat)
  | enterRenew (t u : Nat)                         -- u: the goroutine started if the renewal goes to the background
  | finish (t : Nat) (ok : Bool)                   -- worker outcome, then close + delete (one critical section)
  | ret (t : Nat)                                  -- leave getCertDuringHandshake (deferred close + delete)
  deriving DecidableEq, Repr

def Ev.actor : Ev → Nat
  | .begin t => t | .look t .. => t | .enterLoad t => t | .wake t => t | .timeout t => t
  | .gated t .. => t | .loaded t .. => t | .maintGo t .. => t | .enterObtain t => t
  | .enterRenew t _ => t | .finish t _ => t | .ret t => t

def upd {α : Type} (f : Nat → α) (i : Nat) (v : α) : Nat → α := fun j => if j = i then v else f j

@[simp] theorem upd_same {α : Type} {f : Nat → α} {i : Nat} {v : α} : upd f i v i = v := if_pos rfl
theorem upd_other {α : Type} {f : Nat → α} {i j : Nat} {v : α} (h : j ≠ i) : upd f i v j = f j := if_neg h

structure State where
  pc : Nat → PC
  ownL : Nat → Option Nat          -- the load channel this thread has registered and not yet closed
  ownO : Nat → Option Nat          -- … obtain channel …
  loadCh : Option (Nat × Nat)      -- certLoadWaitChans[name]: (channel, registering thread)
  obtCh : Option (Nat × Nat)       -- obtainCertWaitChans[name]
  closedL : Nat → Bool             -- load channels that have been closed
  nextL : Nat                      -- load channels ≥ nextL have not been made yet
  closedO : Nat → Bool             -- obtain channels …
  nextO : Nat

def init : State :=
  { pc := fun _ => .idle, ownL := fun _ => none, ownO := fun _ => none, loadCh := none, obtCh := none,
    closedL := fun _ => false, nextL := 0, closedO := fun _ => false, nextO := 0 }

/-! waiter time-out (both maps) and worker time-outs, nanoseconds (tie: regenerated) -/

def waiterTimeout : Int := 120000000000   -- `time.NewTimer(2 * time.Minute)` in each of the three waiting selects
def obtainTimeout : Int := 180000000000   -- `context.WithTimeout(ctx, 180*time.Second)`, obtainOnDemandCertificate
def renewBgTimeout : Int := 300000000000  -- `context.WithTimeout(context.Background(), 5*time.Minute)`, goroutine renewAndReload
def renewFgTimeout : Int := 90000000000   -- `context.WithTimeout(ctx, 90*time.Second)`, foreground renewAndReload

/-- the decision of renewDynamicCertificate: specification table; `step` does not call it, `C13_decision`
(Props/C13) shows `enterRenew` follows it -/
inductive Decision | serveCurrent | waitThenReenter | blockAndRenew | serveAndRenewInBackground
  deriving DecidableEq, Repr

def decision (tl rv inFlight : Bool) : Decision :=
  if inFlight then (if tl && !rv then .serveCurrent else .waitThenReenter)
  else (if tl then .serveAndRenewInBackground else .blockAndRenew)

/-- one step. `fix`: with the D9 repair. -/
def step (fix : Bool) (s : State) : Ev → Option State
  | .begin t =>
    if s.pc t = .idle then some { s with pc := upd s.pc t (.lookup true) } else none
  | .look t hit mt tl rv =>
    match s.pc t with
    | .lookup load =>
      if hit then
        (if load && mt then some { s with pc := upd s.pc t (.maint tl rv) }
         else some { s with pc := upd s.pc t (.unwind (if load then .cur else .other)) })
      else some { s with pc := upd s.pc t (.loadSF load) }
    | _ => none
  | .enterLoad t =>
    match s.pc t with
    | .loadSF load =>
      if fix && !load && (s.ownL t).isSome then
        -- D9 repair: re-entered by the owner of the registered channel
        some { s with pc := upd s.pc t (.gate false) }
      else match s.loadCh with
        | some (c, _) => some { s with pc := upd s.pc t (.waitLoad c) }
        | none =>
          some { s with pc := upd s.pc t (.gate load), ownL := upd s.ownL t (some s.nextL),
                        loadCh := some (s.nextL, t), nextL := s.nextL + 1 }
    | _ => none
  | .wake t =>
    match s.pc t with
    | .waitLoad c => if s.closedL c then some { s with pc := upd s.pc t (.lookup false) } else none
    | .waitObtain c => if s.closedO c then some { s with pc := upd s.pc t (.lookup false) } else none
    | _ => none
  | .timeout t =>
    match s.pc t with
    | .waitLoad _ => some { s with pc := upd s.pc t (.unwind .err) }
    | .waitObtain _ => some { s with pc := upd s.pc t (.unwind .err) }
    | _ => none
  | .gated t permit r =>
    match s.pc t with
    | .gate load =>
      if load && permit then some { s with pc := upd s.pc t .loading }
      else some { s with pc := upd s.pc t (.unwind r) }
    | _ => none
  | .loaded t found mt tl rv =>
    match s.pc t with
    | .loading =>
      if found then
        (if mt then some { s with pc := upd s.pc t (.maint tl rv) }
         else some { s with pc := upd s.pc t (.unwind .cur) })
      else some { s with pc := upd s.pc t .obtainSF }
    | _ => none
  | .maintGo t missing permit =>
    match s.pc t with
    | .maint tl rv =>
      if rv then some { s with pc := upd s.pc t (.renewSF tl rv) }
      else if missing then
        (if permit then some { s with pc := upd s.pc t .obtainSF }
         else some { s with pc := upd s.pc t (.unwind (if tl then .cur else .err)) })
      else some { s with pc := upd s.pc t (.renewSF tl rv) }
    | _ => none
  | .enterObtain t =>
    match s.pc t with
    | .obtainSF =>
      match s.obtCh with
      | some (c, _) => some { s with pc := upd s.pc t (.waitObtain c) }
      | none =>
        some { s with pc := upd s.pc t .obtaining, ownO := upd s.ownO t (some s.nextO),
                      obtCh := some (s.nextO, t), nextO := s.nextO + 1 }
    | _ => none
  | .enterRenew t u =>
    match s.pc t with
    | .renewSF tl rv =>
      match s.obtCh with
      | some (c, _) =>
        if tl && !rv then some { s with pc := upd s.pc t (.unwind .cur) }
        else some { s with pc := upd s.pc t (.waitObtain c) }
      | none =>
        if tl then
          (if u ≠ t ∧ s.pc u = .idle then
            some { s with pc := upd (upd s.pc t (.unwind .cur)) u (.renewing true),
                          ownO := upd s.ownO u (some s.nextO), obtCh := some (s.nextO, u), nextO := s.nextO + 1 }
           else none)
        else
          some { s with pc := upd s.pc t (.renewing false), ownO := upd s.ownO t (some s.nextO),
                        obtCh := some (s.nextO, t), nextO := s.nextO + 1 }
    | _ => none
  | .finish t ok =>
    match s.pc t, s.ownO t with
    | .obtaining, some c =>
      some { s with pc := upd s.pc t (.unwind (if ok then .other else .err)), ownO := upd s.ownO t none,
                    obtCh := none, closedO := upd s.closedO c true }
    | .renewing _, some c =>
      -- (a goroutine's result is dropped; it leaves through `unwind`/`ret` like any thread)
      some { s with pc := upd s.pc t (.unwind (if ok then .other else .err)), ownO := upd s.ownO t none,
                    obtCh := none, closedO := upd s.closedO c true }
    | _, _ => none
  | .ret t =>
    match s.pc t with
    | .unwind r =>
      match s.ownL t with
      | some c => some { s with pc := upd s.pc t (.done r), ownL := upd s.ownL t none, loadCh := none,
                                closedL := upd s.closedL c true }
      | none => some { s with pc := upd s.pc t (.done r) }
    | _ => none

def run (fix : Bool) : State → List Ev → Option State
  | s, [] => some s
  | s, e :: es => match step fix s e with
    | none => none
    | some s' => run fix s' es

/-- reachable states of the repaired code -/
inductive Reachable : State → Prop
  | init : Reachable init
  | step {s s' : State} (e : Ev) : Reachable s → step true s e = some s' → Reachable s'

theorem run_reachable (s s' : State) (es : List Ev) (h : Reachable s) (hr : run true s es = some s') :
    Reachable s' := by
  fun_induction run true s es with
  | case1 s => cases hr; exact h
  | case2 s e es hs => cases hr
  | case3 s e es s1 hs ih => exact ih (.step e h hs) hr

end CM.SingleFlight
