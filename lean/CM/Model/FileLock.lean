import CM.Lib.Upd
/-
C08 — timed labelled transition system of ONE lock file of `FileStorage`
(filestorage.go: Lock, Unlock, createLockfile, keepLockfileFresh, updateLockfileFreshness,
atomicallyCreateFile, fileLockIsStale), written from /repo's code, which has the three repairs
D8, D18, D21 (/verif/patches):

  D8   an undecodable (truncated / garbage) lock file is treated like an empty one
       (count, retry, then stale) instead of making `Lock` return a decode error for ever;
  D18  the empty-read counter is reset by every read that decodes a fresh lock, so only
       CONSECUTIVE empty reads count;
  D21  the heartbeat goroutine stops when the file it finds was not created by its own
       `Lock` (different `created` stamp) instead of keeping a successor's file fresh.

The lock file is absent or an inode with one of the contents {empty, garbage,
meta(created, updated)}. Actors are indexed by `Nat` (unboundedly many). An actor is one
`Lock` … `Unlock` episode together with the heartbeat goroutine it spawned; the heartbeat
outlives `Unlock` until it next wakes up (a *zombie*), exactly as in the code. Every file
system call is one step; time passes only by `tick`.

    Lock loop            tryCreate   O_CREATE|O_EXCL: absent ⇒ the file appears EMPTY (`created`);
                                     present ⇒ `exists`
                         writeMeta   Encode{created: now, updated: now}; Lock returns nil; go heartbeat
                         observe     open + decode:  absent ⇒ retry at once
                                                     empty/garbage ⇒ count; < N ⇒ sleep E; else remove
                                                     meta, stale ⇒ remove
                                                     meta, fresh ⇒ counter := 0, sleep P
                         remove      os.Remove(name) — whatever file has the name NOW
                         wake        the timer of the select fired
                         cancel      ctx.Done() in the select ⇒ Lock returns ctx.Err()
    Unlock               unlock      os.Remove(name)
    heartbeat            hbOpen      (after sleeping H) open O_RDWR + read: absent / undecodable /
                                     foreign ⇒ the goroutine ends; else it holds the descriptor
                         hbTrunc     Truncate(0): the file is EMPTY for a moment
                         hbWrite     Encode{created, updated: now}; sleep H
    kill -9              die         the Lock caller and its heartbeat vanish; the file stays

Times are `Nat` nanoseconds; `0` as a time stamp is Go's zero `time.Time`.
-/
namespace CM.FileLock

structure Params where
  H : Nat        -- lockFreshnessInterval
  factor : Nat   -- stale when now - ref > factor * H
  P : Nat        -- fileLockPollInterval
  E : Nat        -- retry delay after an empty / undecodable read
  N : Nat        -- such reads tolerated before the file is declared stale
  deriving Repr, DecidableEq

/-- the constants of the code (regenerated and compared in `CM/Tie/C08.lean`; `factor` with the whole function
`fileLockIsStale` in `CM/Tie/FnC08.lean`) -/
def codeParams : Params :=
  { H := 5000000000, factor := 2, P := 1000000000, E := 250000000, N := 8 }

inductive Content where
  | empty
  | garbage
  | stamp (created updated : Nat)
  deriving DecidableEq, Repr

inductive PC where
  | idle
  | try_ (e : Nat)                 -- top of the loop; e = emptyCount
  | created (i : Nat)              -- O_EXCL create succeeded on inode i (file still empty)
  | exists_ (e : Nat)              -- create said EEXIST
  | sleepE (e due : Nat)           -- select { time.After(E), ctx.Done }
  | poll (e due : Nat)             -- select { time.After(P), ctx.Done }
  | removing (e : Nat)             -- decided "stale"; about to os.Remove
  | holding (i c : Nat)            -- Lock returned nil (inode i, created stamp c)
  | released                       -- Unlock called
  | cancelled                      -- Lock returned ctx.Err()
  | dead
  deriving DecidableEq, Repr

inductive HB where
  | off
  | sleep (due c : Nat)            -- time.Sleep(H); c = the created stamp of its own lock
  | opened (i c : Nat)             -- holds a descriptor on inode i, has read a decodable meta
  | trunc (i c : Nat)              -- has truncated
  | stopped
  deriving DecidableEq, Repr

structure State where
  now  : Nat
  file : Option (Nat × Content)    -- (inode, content) currently bound to the lock file's name
  next : Nat                       -- inodes ≥ next are unused
  pc   : Nat → PC
  hb   : Nat → HB
  beat : Nat → Nat                 -- ghost: instant of the actor's last completed heartbeat write (or creation)

inductive Ev where
  | tick (d : Nat)
  | lock (p : Nat) | tryCreate (p : Nat) | writeMeta (p : Nat) | observe (p : Nat) | remove (p : Nat)
  | wake (p : Nat) | cancel (p : Nat) | unlock (p : Nat) | die (p : Nat)
  | hbOpen (p : Nat) | hbTrunc (p : Nat) | hbWrite (p : Nat)
  deriving DecidableEq, Repr

def upd {α : Type} (f : Nat → α) (k : Nat) (v : α) : Nat → α := fun x => if x = k then v else f x

@[simp] theorem upd_same {α : Type} {f : Nat → α} {k : Nat} {v : α} : upd f k v k = v := if_pos rfl
theorem upd_other {α : Type} {f : Nat → α} {k x : Nat} {v : α} (h : x ≠ k) : upd f k v x = f x := if_neg h

theorem upd_some_of_none {α β : Type} {g : α → Option β} {f : Nat → α} {p : Nat} {v : α} (hv : g v = none)
    {q : Nat} {b : β} (h : g (upd f p v q) = some b) : q ≠ p ∧ g (f q) = some b := by
  rcases Upd.apply_upd h with ⟨_, h'⟩ | h'
  · rw [hv] at h'; cases h'
  · exact h'

theorem apply_upd_of_eq {α β : Type} {g : α → β} {f : Nat → α} {p : Nat} {v : α} (hv : g v = g (f p)) (q : Nat) :
    g (upd f p v q) = g (f q) := by
  fun_cases upd f p v q
  next hq => rw [hv, hq]
  next => rfl

theorem upd_comm {α : Type} (f : Nat → α) {p q : Nat} (h : p ≠ q) (a b : α) :
    upd (upd f p a) q b = upd (upd f q b) p a := by
  funext x
  by_cases hp : x = p
  · subst hp; rw [upd_other h, upd_same, upd_same]
  · by_cases hq : x = q
    · subst hq; rw [upd_same, upd_other hp, upd_same]
    · rw [upd_other hq, upd_other hp, upd_other hp, upd_other hq]

/-- componentwise steps on different components of a family commute, whatever the step function -/
theorem upd_step_comm {σ ε : Type} (stp : σ → ε → Option σ) (w : Nat → σ) {f g : Nat} (hfg : f ≠ g) (e1 e2 : ε) :
    ((stp (w f) e1).map (fun s' => upd w f s')).bind (fun w1 => (stp (w1 g) e2).map (fun s' => upd w1 g s')) =
      ((stp (w g) e2).map (fun s' => upd w g s')).bind (fun w2 => (stp (w2 f) e1).map (fun s' => upd w2 f s')) := by
  have hgf : g ≠ f := fun e => hfg e.symm
  -- each side runs `e1` on `w f` and `e2` on `w g`: the other component is still the old one
  cases h1 : stp (w f) e1 with
  | none =>
    cases h2 : stp (w g) e2 with
    | none => rfl
    | some s2 => simp only [Option.map_none, Option.map_some, Option.bind, upd_other hfg, h1]
  | some s1 =>
    cases h2 : stp (w g) e2 with
    | none => simp only [Option.map_none, Option.map_some, Option.bind, upd_other hgf, h2]
    | some s2 =>
      simp only [Option.map_some, Option.bind, upd_other hgf, upd_other hfg, h1, h2]
      rw [upd_comm w hfg]

/-- `fileLockIsStale`: ref = updated, or created if updated is the zero time;
`time.Since(ref) > factor * lockFreshnessInterval` -/
def stale (c : Params) (now created updated : Nat) : Bool :=
  decide (now - (if updated = 0 then created else updated) > c.factor * c.H)

/-- write `cont` into inode `i` if (and only if) that inode still has the name -/
def writeIno (f : Option (Nat × Content)) (i : Nat) (cont : Content) : Option (Nat × Content) :=
  match f with
  | some (j, old) => if j = i then some (i, cont) else some (j, old)
  | none => none

/-- what a contender does after having read an empty or undecodable lock file -/
def afterEmpty (c : Params) (now e : Nat) : PC :=
  if e + 1 < c.N then .sleepE (e + 1) (now + c.E) else .removing (e + 1)

def step (c : Params) (s : State) : Ev → Option State
  | .tick d => some { s with now := s.now + d }
  | .lock p =>
    match s.pc p with
    | .idle => some { s with pc := upd s.pc p (.try_ 0) }
    | _ => none
  | .tryCreate p =>
    match s.pc p with
    | .try_ e =>
      match s.file with
      | none => some { s with file := some (s.next, .empty), next := s.next + 1, pc := upd s.pc p (.created s.next) }
      | some _ => some { s with pc := upd s.pc p (.exists_ e) }
    | _ => none
  | .writeMeta p =>
    match s.pc p with
    | .created i =>
      some { s with file := writeIno s.file i (.stamp s.now s.now), pc := upd s.pc p (.holding i s.now)
                    hb := upd s.hb p (.sleep (s.now + c.H) s.now), beat := upd s.beat p s.now }
    | _ => none
  | .observe p =>
    match s.pc p with
    | .exists_ e =>
      match s.file with
      | none => some { s with pc := upd s.pc p (.try_ e) }
      | some (_, .empty) => some { s with pc := upd s.pc p (afterEmpty c s.now e) }
      | some (_, .garbage) => some { s with pc := upd s.pc p (afterEmpty c s.now e) }
      | some (_, .stamp cr u) =>
        if stale c s.now cr u then some { s with pc := upd s.pc p (.removing e) }
        else some { s with pc := upd s.pc p (.poll 0 (s.now + c.P)) }
    | _ => none
  | .remove p =>
    match s.pc p with
    | .removing e => some { s with file := none, pc := upd s.pc p (.try_ e) }
    | _ => none
  | .wake p =>
    match s.pc p with
    | .sleepE e due => if due ≤ s.now then some { s with pc := upd s.pc p (.try_ e) } else none
    | .poll e due => if due ≤ s.now then some { s with pc := upd s.pc p (.try_ e) } else none
    | _ => none
  | .cancel p =>
    match s.pc p with
    | .sleepE _ _ => some { s with pc := upd s.pc p .cancelled }
    | .poll _ _ => some { s with pc := upd s.pc p .cancelled }
    | _ => none
  | .unlock p =>
    match s.pc p with
    | .holding _ _ => some { s with file := none, pc := upd s.pc p .released }
    | _ => none
  | .die p =>
    match s.pc p with
    | .dead => none
    | _ => some { s with pc := upd s.pc p .dead, hb := upd s.hb p .stopped }
  | .hbOpen p =>
    match s.hb p with
    | .sleep due c0 =>
      if due ≤ s.now then
        match s.file with
        | some (i, .stamp cr _) =>
          if cr = c0 then some { s with hb := upd s.hb p (.opened i c0) }
          else some { s with hb := upd s.hb p .stopped }
        | _ => some { s with hb := upd s.hb p .stopped }
      else none
    | _ => none
  | .hbTrunc p =>
    match s.hb p with
    | .opened i c0 => some { s with file := writeIno s.file i .empty, hb := upd s.hb p (.trunc i c0) }
    | _ => none
  | .hbWrite p =>
    match s.hb p with
    | .trunc i c0 =>
      some { s with file := writeIno s.file i (.stamp c0 s.now), hb := upd s.hb p (.sleep (s.now + c.H) c0)
                    beat := upd s.beat p s.now }
    | _ => none

def run (c : Params) : State → List Ev → Option State
  | s, [] => some s
  | s, e :: es => match step c s e with
    | some s' => run c s' es
    | none => none

/-- start: time `t0`; the lock file absent or left behind by somebody who is gone;
everybody idle -/
def initState (t0 : Nat) (f0 : Option Content) : State where
  now := t0
  file := f0.map (fun c => (0, c))
  next := 1
  pc := fun _ => .idle
  hb := fun _ => .off
  beat := fun _ => 0

/-- reachability under an assumption `A` on transitions (the named scheduler assumptions
of C08 are such predicates; `fun _ _ _ => True` = no assumption) -/
inductive Reach (c : Params) (A : State → Ev → State → Prop) (s0 : State) : State → Prop where
  | init : Reach c A s0 s0
  | step {s s' : State} {e : Ev} : Reach c A s0 s → step c s e = some s' → A s e s' → Reach c A s0 s'

/-- the inode an actor has created and not yet released -/
def ownIno : PC → Option Nat
  | .created i => some i
  | .holding i _ => some i
  | _ => none

/-- the actor is between a successful O_EXCL create and its Unlock: it holds the lock or
is about to be told so -/
def owner (s : State) (p : Nat) : Prop := ∃ i, ownIno (s.pc p) = some i

/-- the inode a heartbeat has a descriptor on -/
def hbIno : HB → Option Nat
  | .opened i _ => some i
  | .trunc i _ => some i
  | _ => none

/-! ## the named assumptions (predicates on transitions) -/

/-- **H_timely** (with lateness bound `J`): whenever an actor is holding, its last
completed heartbeat (or its creation) is at most `H + J` ago -/
def HTimely (c : Params) (J : Nat) : State → Ev → State → Prop :=
  fun _ _ s' => ∀ p i cr, s'.pc p = .holding i cr → s'.now ≤ s'.beat p + c.H + J

/-- **H_live**: nobody dies between its successful create and its Unlock -/
def HLive : State → Ev → State → Prop :=
  fun s e _ => ∀ p, e = .die p → ¬ owner s p

/-- **H_empty**: while the creator of the present lock file is alive, no contender reads it
as empty/undecodable `N` times IN A ROW (with D18 repaired the counter restarts at every
read that decodes) — i.e. such a read never ends in the decision to remove the file -/
def HEmpty : State → Ev → State → Prop :=
  fun s e s' => ∀ p, e = .observe p →
    (∃ i, (s.file = some (i, .empty) ∨ s.file = some (i, .garbage)) ∧ ∃ q, ownIno (s.pc q) = some i) →
    ∀ k, s'.pc p ≠ .removing k

end CM.FileLock
