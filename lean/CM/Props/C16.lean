import CM.Proofs.Solvers
/-!
# C16 — solving challenges leaves nothing behind

`Reach P p0 s`: `s` is reachable from the empty state (DNS provider holding `p0`) by *any*
sequence of `Present` / `CleanUp` calls — any number of challenges of the three types, any
sharing of listen addresses, identifier keys and record names, any interleaving, any
outcome of every call (bind succeeded / address in use / bind error, token store failed,
no challenge certificate, provider error, **context cancelled**) — subject only to acmez's
discipline (a `CleanUp` for a challenge presented and not yet cleaned up; that is `step`'s
guard) and to the restriction `P` on the environment where one is stated.
`s.active` is the list of challenges presented and not yet cleaned up.

The statement's first sentence (“issuance succeeds against a conforming ACME server”) is
not a theorem; see `props.d/C16.json`.
-/
namespace CM.Solvers

/-- **Count.** The count of every listen address is the number of pending challenges using
it — whatever failed, whatever was cancelled. -/
theorem C16_count (p0 : List (Nat × Nat)) (s : State) (h : Reach anyEv p0 s) (a : Nat) :
    s.cnt a = ((s.active.countP (uses a) : Nat) : Int) := inv_count h a

/-- **Listener ⇔ use.** Our listener on an address is open only while some pending challenge
uses the address; when none does, the listener is closed and the entry gone; the `solvers`
map has an entry exactly for the addresses in use. -/
theorem C16_listener_iff (p0 : List (Nat × Nat)) (s : State) (h : Reach anyEv p0 s) (a : Nat) :
    (s.lis a = true → ∃ c ∈ s.active, uses a c = true) ∧
    ((∀ c ∈ s.active, uses a c = false) → s.lis a = false ∧ s.ent a = false ∧ s.cnt a = 0) ∧
    (s.ent a = true ↔ ∃ c ∈ s.active, uses a c = true) := by
  obtain ⟨h1, h2⟩ := inv_listener h a
  have pos := cnt_pos_iff h a
  refine ⟨fun hl => pos.mp (h1 hl), fun hn => ?_, h2.trans pos⟩
  have hz : ¬ 0 < s.cnt a := fun hp => by
    obtain ⟨c, hc, hu⟩ := pos.mp hp
    rw [hn c hc] at hu; cases hu
  refine ⟨Bool.eq_false_iff.mpr fun hl => hz (h1 hl), Bool.eq_false_iff.mpr fun he => hz (h2.mp he), ?_⟩
  have := inv_count h a
  omega

/-- **Stays open.** No event closes an open listener while a challenge using its address
remains pending afterwards. -/
theorem C16_stays_open (p0 : List (Nat × Nat)) (s s' : State) (e : Ev) (h : Reach anyEv p0 s)
    (hs : step s e = some s') (a : Nat) (hl : s.lis a = true)
    (hu : ∃ c ∈ s'.active, uses a c = true) : s'.lis a = true := by
  cases e with
  | present c r =>
    obtain rfl := step_present.mp hs
    rw [apply_present]
    simp [hl]
  | cleanUp c r =>
    -- a `CleanUp` closes the listener only if it brings the count to 0; but a challenge using `a` is
    -- pending afterwards, so the count is still positive then
    have hp := (cnt_pos_iff (Reach.next h (by trivial : anyEv _) hs) a).mpr hu
    obtain ⟨_, rfl⟩ := step_cleanUp.mp hs
    rw [apply_cleanUp] at hp ⊢
    simp only at hp ⊢
    rw [if_neg, hl]
    rintro ⟨hx, hz⟩
    rw [if_pos hx] at hp
    omega

/-- **First in opens.** A `Present` whose bind succeeds leaves our listener open. -/
theorem C16_opens (s s' : State) (c : Ch) (r : PRes) (hs : step s (.present c r) = some s')
    (ht : c.typ ≠ .dns) (hb : r.bind = .ok) (hcert : r.cert = true) : s'.lis c.addr = true := by
  obtain rfl := step_present.mp hs
  rw [apply_present]
  cases hc : c.typ <;> simp_all [uses, opens, Typ.listens]

/-- **Last out closes.** The `CleanUp` after which no pending challenge uses the address
closes the listener and deletes the entry. -/
theorem C16_last_closes (p0 : List (Nat × Nat)) (s s' : State) (c : Ch) (r : CRes)
    (h : Reach anyEv p0 s) (hs : step s (.cleanUp c r) = some s')
    (hn : ∀ c' ∈ s'.active, uses c.addr c' = false) :
    s'.lis c.addr = false ∧ s'.ent c.addr = false :=
  let h' := (C16_listener_iff p0 s' (Reach.next h (by trivial : anyEv _) hs) c.addr).2.1 hn
  ⟨h'.1, h'.2.1⟩

/-- **Memory gone.** A memory entry always belongs to a pending challenge; after the last
`CleanUp` the challenge memory is empty — whatever failed, whatever was cancelled. -/
theorem C16_memory_gone (p0 : List (Nat × Nat)) (s : State) (h : Reach anyEv p0 s) :
    (∀ k, s.mem k = true → ∃ c ∈ s.active, c.key = k) ∧ (s.active = [] → ∀ k, s.mem k = false) := by
  refine ⟨inv_mem h, fun he k => Bool.eq_false_iff.mpr fun hm => ?_⟩
  obtain ⟨c, hc, _⟩ := inv_mem h k hm
  rw [he] at hc; cases hc

/-- **Tokens gone.** Provided the storage does not fail a delete issued with a live context
(cancellation of the *caller's* context is allowed on every call): a token file always
belongs to a pending HTTP-01 / TLS-ALPN-01 challenge; after the last `CleanUp` no token file
is left. -/
theorem C16_tokens_gone (p0 : List (Nat × Nat)) (s : State) (h : Reach storageDeletes p0 s) :
    (∀ k, s.tok k = true → ∃ c ∈ s.active, c.typ ≠ .dns ∧ c.key = k) ∧
    (s.active = [] → ∀ k, s.tok k = false) := by
  refine ⟨inv_tok h, fun he k => Bool.eq_false_iff.mpr fun hm => ?_⟩
  obtain ⟨c, hc, _⟩ := inv_tok h k hm
  rw [he] at hc; cases hc

/-- **Records gone.** Remembered DNS records never outnumber the pending DNS-01 challenges
for them (also when several share one name, or even name and value); provided the provider
does not fail a delete, it holds its initial records plus the remembered ones; so after
the last `CleanUp` nothing is remembered and the provider's record set is the initial one
(as a multiset) — also when every `CleanUp` ran with a cancelled context. -/
theorem C16_records_gone (p0 : List (Nat × Nat)) (s : State) (h : Reach providerDeletes p0 s) :
    (∀ p, s.recMem.count p ≤ s.active.countP (hasRec p)) ∧
    (∀ p, s.provider.count p = p0.count p + s.recMem.count p) ∧
    (s.active = [] → s.recMem = [] ∧ s.provider.Perm p0) := by
  have hp := inv_provider h
  refine ⟨inv_recMem h, fun p => ?_, fun he => ?_⟩
  · rw [hp.count_eq, List.count_append, Nat.add_comm]
  · have hr : s.recMem = [] := List.eq_nil_iff_forall_not_mem.mpr fun p hm => by
      have := inv_recMem h p
      rw [he, List.countP_nil] at this
      exact absurd (List.count_pos_iff.mpr hm) (by omega)
    rw [hr] at hp
    exact ⟨hr, hp⟩

/-- **Cancellation is irrelevant to what `CleanUp` does** (the model of the repaired code
does not consult the flag; the harness checks that the code does not either). -/
theorem C16_cancel_irrelevant (s : State) (c : Ch) (r : CRes) (b : Bool) :
    step s (.cleanUp c { r with cancelled := b }) = step s (.cleanUp c r) :=
  rfl

/-! ### non-vacuity -/

section examples

def okP : PRes := { store := true, cert := true, bind := .ok, prov := true }
def okC : CRes := { cancelled := false, del := true, prov := true }
def cancelledC : CRes := { cancelled := true, del := true, prov := true }

def h1 : Ch := { id := 1, typ := .http, addr := 80, key := 10, rname := 0, rval := 0 }
def h2 : Ch := { id := 2, typ := .http, addr := 80, key := 11, rname := 0, rval := 0 }
def a3 : Ch := { id := 3, typ := .alpn, addr := 443, key := 12, rname := 0, rval := 0 }
/-- `example.com` and `*.example.com`: one record name, two values -/
def d4 : Ch := { id := 4, typ := .dns, addr := 0, key := 20, rname := 7, rval := 100 }
def d5 : Ch := { id := 5, typ := .dns, addr := 0, key := 20, rname := 7, rval := 101 }

def exInit : List (Nat × Nat) := [(7, 1), (9, 9)]

/-- two HTTP-01 challenges on one address (the second store fails), a TLS-ALPN-01 one without
certificate, two DNS-01 ones sharing a name; then the first is cleaned up under a cancelled context -/
def exTrace : List Ev :=
  [.present h1 okP, .present h2 { okP with store := false }, .present a3 { okP with cert := false },
   .present d4 okP, .present d5 okP, .cleanUp h1 cancelledC]

def exAll : List Ev :=
  exTrace ++ [.cleanUp d5 cancelledC, .cleanUp h2 cancelledC, .cleanUp d4 cancelledC, .cleanUp a3 okC]

theorem exTrace_ok : (run (State.init exInit) exTrace).isSome = true := by decide +kernel
theorem exAll_ok : (run (State.init exInit) exAll).isSome = true := by decide +kernel
def exMid : State := (run (State.init exInit) exTrace).get exTrace_ok
def exEnd : State := (run (State.init exInit) exAll).get exAll_ok

theorem exMid_reach : Reach (fun e => anyEv e ∧ storageDeletes e ∧ providerDeletes e) exInit exMid :=
  reach_of_run exTrace Reach.init
    (by intro e he
        simp only [exTrace, List.mem_cons, List.not_mem_nil, or_false] at he
        rcases he with rfl | rfl | rfl | rfl | rfl | rfl <;>
          simp [anyEv, storageDeletes, providerDeletes, cancelledC])
    (Option.some_get exTrace_ok).symm

-- in the middle: the listener on 80 is still open for h2 although h1 was cleaned with a cancelled context
example : exMid.lis 80 = true ∧ exMid.cnt 80 = 1 ∧ exMid.cnt 443 = 1 ∧ exMid.lis 443 = false := by decide +kernel
example : exMid.tok 10 = false ∧ exMid.tok 12 = true ∧ exMid.tok 11 = false ∧ exMid.mem 11 = true := by decide +kernel
example : exMid.recMem = [(7, 100), (7, 101)] ∧ exMid.provider = [(7, 101), (7, 100), (7, 1), (9, 9)] := by decide +kernel
-- at the end: everything is gone
example : exEnd.active = [] ∧ exEnd.lis 80 = false ∧ exEnd.ent 80 = false ∧ exEnd.ent 443 = false ∧
    exEnd.tok 12 = false ∧ exEnd.mem 12 = false ∧ exEnd.mem 20 = false ∧ exEnd.recMem = [] ∧
    exEnd.provider = exInit := by decide +kernel
-- the discipline rejects a second clean-up
example : step exEnd (.cleanUp h1 okC) = none := by decide +kernel

end examples

end CM.Solvers
