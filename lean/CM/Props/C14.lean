import CM.Proofs.OCSP
/-!
# C14 — only a Good, in-date OCSP response for that certificate is ever stapled

Theorems for every input of `staple` (the model of `stapleOCSP` after the D4 repair):
whatever is persisted, however the responder behaves, for every `now` and validity.
-/
namespace CM.OCSP

/-- everything a stapled response satisfies, by source -/
theorem staple_stapled (i : StapleIn) (src : Source) (r : Resp)
    (h : (staple i).stapled = some (src, r)) :
    r.status = .good ∧
    (∀ nu, r.nextUpdate = some nu → nu ≤ expiresAt i.notAfter) ∧
    current i.now r = true ∧
    ((src = .storage ∧ i.persisted = .parsed r ∧ storedVerifies i r = true ∧ fresh i.now r = true) ∨
     (src = .responder ∧ i.responder = .answer r ∧ answerVerifies r = true)) := by
  rcases staple_cases i with ⟨s, r', hs, hsrc⟩ | ⟨hs, _⟩
  · rw [hs] at h
    obtain ⟨rfl, rfl, hg, hpe⟩ := finish_stapled_iff.1 h
    refine ⟨hg, pastExpiry_false_iff.1 hpe, ?_⟩
    rcases hsrc with ⟨rfl, hu⟩ | ⟨rfl, hq⟩
    · obtain ⟨_, hp, hv, hf, hc⟩ := usable_eq_some.1 (Prod.ext hu rfl)
      exact ⟨hc, Or.inl ⟨rfl, hp, hv, hf⟩⟩
    · obtain ⟨hr, hv, hc⟩ := query_ok.1 hq
      exact ⟨hc, Or.inr ⟨rfl, hr, hv⟩⟩
  · rw [hs] at h; cases h

/-- **Good only**: Revoked and Unknown responses are never stapled -/
theorem C14_good_only (i : StapleIn) (src : Source) (r : Resp)
    (h : (staple i).stapled = some (src, r)) : r.status = .good :=
  (staple_stapled i src r h).1

/-- **not past expiry**: the validity of a stapled response does not extend past the
certificate's expiry -/
theorem C14_not_past_expiry (i : StapleIn) (src : Source) (r : Resp)
    (h : (staple i).stapled = some (src, r)) (nu : Int) (hnu : r.nextUpdate = some nu) :
    nu ≤ expiresAt i.notAfter :=
  (staple_stapled i src r h).2.1 nu hnu

/-- **for this certificate**: a stapled response carries the certificate's serial, and its
signature verifies for the issuer — always for a fresh answer, and for a stored staple
whenever the chain carries the issuer -/
theorem C14_for_this_cert (i : StapleIn) (src : Source) (r : Resp)
    (h : (staple i).stapled = some (src, r)) :
    r.serialMatches = true ∧ (r.signedByIssuer = true ∨ (src = .storage ∧ i.issuerInChain = false)) := by
  rcases (staple_stapled i src r h).2.2.2 with ⟨hs, _, hv, _⟩ | ⟨_, _, hv⟩
  · simp only [storedVerifies, Bool.and_eq_true, Bool.or_eq_true, Bool.not_eq_true'] at hv
    exact ⟨hv.1, hv.2.symm.imp_right fun h1 => ⟨hs, h1⟩⟩
  · simp only [answerVerifies, Bool.and_eq_true] at hv
    exact ⟨hv.1, Or.inl hv.2⟩

/-- **current**: a response is stapled only inside its own validity period -/
theorem C14_current (i : StapleIn) (src : Source) (r : Resp)
    (h : (staple i).stapled = some (src, r)) :
    r.thisUpdate ≤ i.now ∧ ∀ nu, r.nextUpdate = some nu → i.now ≤ nu :=
  current_iff.1 (staple_stapled i src r h).2.2.1

/-- a stapled response is one of the two inputs: the stored staple or the responder's answer -/
theorem C14_provenance (i : StapleIn) (src : Source) (r : Resp)
    (h : (staple i).stapled = some (src, r)) :
    (src = .storage ∧ i.persisted = .parsed r) ∨ (src = .responder ∧ i.responder = .answer r) := by
  rcases (staple_stapled i src r h).2.2.2 with ⟨hs, hp, _⟩ | ⟨hs, hr, _⟩
  · exact Or.inl ⟨hs, hp⟩
  · exact Or.inr ⟨hs, hr⟩

/-- only a verified Good response is ever written to storage, and it is the one stapled -/
theorem C14_persist_verified (i : StapleIn) (h : (staple i).stored = true) :
    ∃ r, (staple i).stapled = some (.responder, r) := by
  rcases staple_cases i with ⟨_, r, hs, _⟩ | ⟨_, hs⟩
  · rw [hs] at h ⊢; exact ⟨r, finish_stored h⟩
  · rw [hs] at h; cases h

/-- the responder fails: no server, disabled by override, no issuer, transport error, garbage,
or an answer that does not verify for this certificate or is outside its validity period -/
def ResponderFails (i : StapleIn) : Prop :=
  i.responder = .noServer ∨ i.responder = .overrideEmpty ∨ i.responder = .noIssuer ∨
  i.responder = .transportErr ∨ i.responder = .garbage ∨
  ∃ r, i.responder = .answer r ∧ (answerVerifies r = false ∨ current i.now r = false)

/-- **failure is not fatal**: whatever the responder does wrong, the certificate is still
produced and cached; it carries no staple, or the stored one (which then satisfies all of
the above) -/
theorem C14_failure_not_fatal (i : StapleIn) (h : ResponderFails i) :
    (cacheWithOCSP i).cached = true ∧
    ((cacheWithOCSP i).staple = none ∨ ∃ r, (cacheWithOCSP i).staple = some (.storage, r)) := by
  refine ⟨rfl, ?_⟩
  show (staple i).stapled = none ∨ ∃ r, (staple i).stapled = some (.storage, r)
  rcases Option.eq_none_or_eq_some (staple i).stapled with hs | ⟨⟨src, r⟩, hs⟩
  · exact Or.inl hs
  · have hv := staple_stapled i src r hs
    rcases hv.2.2.2 with ⟨rfl, _⟩ | ⟨_, hr, hav⟩
    · exact Or.inr ⟨r, hs⟩
    · -- the responder's answer was used: it is none of the failures
      simp [ResponderFails, hr, hav, hv.2.2.1] at h

/-- … and in maintenance a failed refresh leaves the cached entry exactly as it was -/
theorem C14_failure_keeps_entry (e : Entry) (i : StapleIn) (sc : Bool) (renew : Renew)
    (hs : scan i.now e = .refresh) (herr : (staple i).err = true) :
    (maintain e i sc renew).after = .kept e.ocsp e.staple ∧ (maintain e i sc renew).forced = false := by
  unfold maintain
  rw [hs]
  simp only [herr, if_true, and_self]

/-- **reuse**: a stored staple that verifies for the certificate, is fresh and current is
used without contacting the responder (this is the whole of a cold start: the model has no
other state), and it is stapled if it is Good and does not outlive the certificate -/
theorem C14_reuse_fresh (i : StapleIn) (r : Resp) (hd : i.disabled = false)
    (hp : i.persisted = .parsed r) (hv : storedVerifies i r = true)
    (hf : fresh i.now r = true) (hc : current i.now r = true) :
    (staple i).contacted = false ∧ (staple i).deleted = false ∧ (staple i).stored = false ∧
    (r.status = .good → (∀ nu, r.nextUpdate = some nu → nu ≤ expiresAt i.notAfter) →
      (staple i).stapled = some (.storage, r)) := by
  rw [staple_of_usable hd (usable_eq_some.2 ⟨rfl, hp, hv, hf, hc⟩)]
  obtain ⟨h1, h2, h3⟩ := finish_of_storage i r false
  exact ⟨h1, h2, h3, fun hg hall => finish_stapled_iff.2 ⟨rfl, rfl, hg, pastExpiry_false_iff.2 hall⟩⟩

/-- the latest response for the entry is Revoked: it already was, or this pass's refresh
succeeded and attached a Revoked response -/
def LatestRevoked (e : Entry) (i : StapleIn) : Prop :=
  (∃ r, e.ocsp = some r ∧ r.status = .revoked) ∨
  (scan i.now e = .refresh ∧ (staple i).err = false ∧ ∃ r, (staple i).ocspSet = some r ∧ r.status = .revoked)

/-- **revoked ⇒ replaced or removed**: for a managed, unexpired certificate whose latest
response is Revoked the pass calls `forceRenew`; afterwards the cache holds a newly
obtained certificate in its place (the renewal succeeded) or no entry at all (it failed,
at once or after the retry budget was spent). The one other outcome the code has — the
renewal succeeded and re-loading it from storage failed — is excluded by `hr`. -/
theorem C14_revoked_replaced_or_removed (e : Entry) (i : StapleIn) (sc : Bool) (renew : Renew)
    (hm : e.managed = true) (hn : e.hasNames = true) (hl : e.leafNil = false) (hx : e.expired = false)
    (hrev : LatestRevoked e i) (hr : renew ≠ .reloadFail) :
    (maintain e i sc renew).forced = true ∧
    ((maintain e i sc renew).after = .replaced ∨ (maintain e i sc renew).after = .removed) ∧
    ((maintain e i sc renew).after = .replaced ↔ renew = .ok) := by
  rcases hrev with ⟨r, he, hrr⟩ | ⟨hs, herr, r, hset, hrr⟩
  · have hsc : scan i.now e = .forceRenew :=
      scan_eq_forceRenew.2 ⟨by simp [hl, hx], shouldForce_iff.2 ⟨hm, hn, r, he, hrr⟩⟩
    unfold maintain
    rw [hsc]
    exact ⟨rfl, afterForce_of_ne_reloadFail hr⟩
  · have hf : shouldForce e.managed e.hasNames (localOcsp e (staple i)) = true :=
      shouldForce_iff.2 ⟨hm, hn, r, by rw [localOcsp, hset], hrr⟩
    unfold maintain
    rw [hs]
    simp only [herr, Bool.false_eq_true, if_false, hf, if_true]
    exact ⟨trivial, afterForce_of_ne_reloadFail hr⟩

/-- an unmanaged certificate is never force-renewed or removed by the pass -/
theorem C14_unmanaged_never_forced (e : Entry) (i : StapleIn) (sc : Bool) (renew : Renew)
    (hm : e.managed = false) :
    (maintain e i sc renew).forced = false ∧ ∃ a b, (maintain e i sc renew).after = .kept a b := by
  have hf : ∀ o, shouldForce e.managed e.hasNames o = true → False :=
    fun o h => Bool.false_ne_true (hm.symm.trans (shouldForce_iff.1 h).1)
  fun_cases maintain e i sc renew
  · exact ⟨rfl, _, _, rfl⟩
  · next hs => exact (hf _ (scan_eq_forceRenew.1 hs).2).elim
  · exact ⟨rfl, _, _, rfl⟩
  · next h => exact (hf _ h).elim
  · exact ⟨rfl, written_kept⟩

/-- whatever the pass leaves as the staple of a kept entry is the old staple or a response
this pass stapled (hence Good, current, for this certificate: `staple_stapled`) -/
theorem C14_writeback_sound (e : Entry) (i : StapleIn) (sc : Bool) (renew : Renew) (a b : Option Resp)
    (h : (maintain e i sc renew).after = .kept a b) :
    b = e.staple ∨ ∃ src r, (staple i).stapled = some (src, r) ∧ b = some r := by
  revert h
  fun_cases maintain e i sc renew
  all_goals intro h
  · cases h; exact Or.inl rfl
  · cases afterForce_kept h; exact Or.inl rfl
  · cases h; exact Or.inl rfl
  · exact written_staple (afterForce_kept h)
  · exact written_staple h

def hour : Int := 3600 * sec
def goodNow : Resp := { status := .good, serialMatches := true, signedByIssuer := true
                        thisUpdate := 100 * day - hour, nextUpdate := some (100 * day + 3 * hour), responderNotAfter := none }
def exIn : StapleIn := { disabled := false, persisted := .absent, responder := .answer goodNow, issuerInChain := true
                         notBefore := 50 * day, notAfter := 140 * day, now := 100 * day, storeFails := false }

/-- a Good, current answer for this certificate is stapled and persisted -/
example : (staple exIn).stapled = some (.responder, goodNow) ∧ (staple exIn).stored = true := by decide +kernel
/-- the same answer for another serial, or expired, or not yet valid, or outliving the
certificate, or Revoked: nothing is stapled (the first three were stapled before the repair) -/
example : (staple { exIn with responder := .answer { goodNow with serialMatches := false } }).stapled = none := by decide +kernel
example : (staple { exIn with responder := .answer { goodNow with nextUpdate := some (100 * day - 1) } }).stapled = none := by decide +kernel
example : (staple { exIn with responder := .answer { goodNow with thisUpdate := 100 * day + 1 } }).stapled = none := by decide +kernel
example : (staple { exIn with responder := .answer { goodNow with nextUpdate := some (141 * day) } }).stapled = none := by decide +kernel
example : (staple { exIn with responder := .answer { goodNow with status := .revoked } }).stapled = none ∧
    (staple { exIn with responder := .answer { goodNow with status := .revoked } }).ocspSet.isSome = true := by decide +kernel
/-- an absent NextUpdate is accepted (TestStapleOCSP/ok) -/
example : (staple { exIn with responder := .answer { goodNow with nextUpdate := none } }).stapled.isSome = true := by decide +kernel
/-- a fresh stored staple is reused without contacting the responder; a stale one is not -/
example : (staple { exIn with persisted := .parsed goodNow, responder := .transportErr }).stapled = some (.storage, goodNow) ∧
    (staple { exIn with persisted := .parsed goodNow, responder := .transportErr }).contacted = false := by decide +kernel
example : (staple { exIn with persisted := .parsed goodNow, responder := .transportErr, now := 100 * day + 2 * hour }).contacted = true := by
  decide +kernel
/-- `ResponderFails` is satisfiable -/
example : ResponderFails { exIn with responder := .garbage } := Or.inr (Or.inr (Or.inr (Or.inr (Or.inl rfl))))
/-- a managed entry whose refresh turns Revoked -/
def exEntry : Entry := { leafNil := false, expired := false, managed := true, hasNames := true
                         ocsp := some { goodNow with thisUpdate := 99 * day, nextUpdate := some (100 * day) }
                         staple := some { goodNow with thisUpdate := 99 * day, nextUpdate := some (100 * day) } }
example : LatestRevoked exEntry { exIn with responder := .answer { goodNow with status := .revoked } } := by
  right; refine ⟨by decide +kernel, by decide +kernel, _, rfl, rfl⟩
example : (maintain exEntry { exIn with responder := .answer { goodNow with status := .revoked } } true .fail).after = .removed := by
  decide +kernel
example : (maintain exEntry exIn true .ok).after = .kept (some goodNow) (some goodNow) := by decide +kernel

/-- retries exhausted (the input on which the unrepaired `doWithRetry` kept the revoked
certificate, D21): the entry is removed -/
example : (maintain exEntry { exIn with responder := .answer { goodNow with status := .revoked } } true .gaveUp).after = .removed := by
  decide +kernel

end CM.OCSP
