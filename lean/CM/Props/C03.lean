import CM.Model.Lookup
import CM.Proofs.Lookup
import CM.Props.C12
/-!
# C03 — a handshake gets a complete covering certificate, or an error

Theorems over EVERY cache state satisfying C12's invariant, every (normalised) server name,
every default/fallback configuration, every capacity and fill level, every storage content,
every answer of `hello.SupportsCertificate` and every clock value.
-/
namespace CM.Lookup
open CM.Cache

/-- the reasons the statement allows for answering with a certificate whose names are `names`:
it covers the requested name (exactly or by wildcard); for a hello without SNI it lists the
connection's local IP, or the configured default name; or it lists the configured fallback name -/
def Justified (cfg : Cfg) (h : Hello) (names : List Name) : Prop :=
  (h.sni ≠ [] ∧ covers h.sni names) ∨
  (h.sni = [] ∧ ∃ ip, h.conn = some ip ∧ ip ∈ names) ∨
  (h.sni = [] ∧ ∃ d, cfg.defaultName = some d ∧ d ∈ names) ∨
  (∃ f, cfg.fallbackName = some f ∧ f ∈ names)

/-- the model of `MatchWildcard` decides exactly the reference relation: a subject without
empty labels matches a certificate name `w` iff `w` is the subject itself or the subject with
its leftmost 1…k labels replaced by `*` -/
theorem C03_covers_iff_matchWildcard (n w : Name) (hn : ∀ l ∈ splitDot n, l ≠ []) :
    matchWildcard n w = true ↔ (n = w ∨ ∃ k, 1 ≤ k ∧ k ≤ (splitDot n).length ∧ w = wildAt n k) := by
  rw [matchWildcard_iff n w hn, List.mem_cons, mem_candidates, eq_comm]

/-- … hence `covers` is "some name of the certificate `MatchWildcard`s the subject" -/
theorem C03_covers_iff_some_name_matches (n : Name) (names : List Name) (hn : ∀ l ∈ splitDot n, l ≠ []) :
    covers n names ↔ ∃ w, w ∈ names ∧ matchWildcard n w = true := by
  rw [covers_iff_candidates]
  exact exists_congr fun w => by rw [matchWildcard_iff n w hn, and_comm]

/-- **soundness**: an answer without error is a certificate of the cache that is justified
by the hello and the configuration — or the bundle loaded from storage for that name -/
theorem C03_sound (e : Env) (cfg : Cfg) (s : State) (h : Hello) (r : Req) (c : Cert) (hI : Inv s)
    (hg : getCert e cfg s h r = .ok c) :
    (Cached s c ∧ Justified cfg h c.names) ∨ FromStorage cfg s h r c := by
  rcases getCert_ok hg with hs | ⟨key, how, ho, hsel⟩
  · exact Or.inr hs
  · obtain ⟨hc, hk⟩ := selectCert_cached hI hsel
    refine Or.inl ⟨hc, ?_⟩
    cases ho with
    | ip h1 h2 => exact Or.inr (Or.inl ⟨h1, key, h2, hk⟩)
    | name h1 h2 => exact Or.inl ⟨h1, (covers_iff_candidates _ _).mpr ⟨key, h2, hk⟩⟩
    | dflt h1 h2 => exact Or.inr (Or.inr (Or.inl ⟨h1, key, h2, hk⟩))
    | fallback h1 => exact Or.inr (Or.inr (Or.inr ⟨key, h1, hk⟩))

/-- **totality**: the answer is an error, or a real certificate (never Go's empty
`Certificate{}`), complete whenever the cached and stored certificates are -/
theorem C03_total (e : Env) (cfg : Cfg) (s : State) (h : Hello) (r : Req) (hI : Inv s)
    (hstored : ∀ n c, (n, c) ∈ r.stored → c.hash ≠ "" ∧ (e.view c.hash).complete = true)
    (hcached : ∀ c, Cached s c → (e.view c.hash).complete = true) :
    getCert e cfg s h r = .err ∨
      ∃ c, getCert e cfg s h r = .ok c ∧ c.hash ≠ "" ∧ c ≠ zeroCert ∧ (e.view c.hash).complete = true := by
  cases hg : getCert e cfg s h r with
  | err => exact Or.inl rfl
  | ok c =>
    have key : c.hash ≠ "" ∧ (e.view c.hash).complete = true := by
      rcases C03_sound e cfg s h r c hI hg with ⟨hc, _⟩ | ⟨_, name, _, _, hl⟩
      · exact ⟨(hI.keyHash _ _ hc).2, hcached c hc⟩
      · obtain ⟨k, hk⟩ := loadStored_mem hl
        exact hstored k c hk
    exact Or.inr ⟨c, rfl, key.1, fun hz => key.1 (hz ▸ rfl), key.2⟩

/-- **exact match first**: if some cached certificate lists the requested name exactly, the
answer is a cached certificate that lists it exactly (whatever wildcards are cached) -/
theorem C03_exact_first (e : Env) (cfg : Cfg) (s : State) (h : Hello) (r : Req) (hI : Inv s)
    (hsni : h.sni ≠ []) (hex : ∃ c0, Cached s c0 ∧ h.sni ∈ c0.names) :
    ∃ c, getCert e cfg s h r = .ok c ∧ Cached s c ∧ h.sni ∈ c.names :=
  getCert_first_attempt hI (by unfold attempts; rw [if_neg hsni]; rfl) hex

/-- **local IP first**: without SNI, if some cached certificate lists the connection's local
IP address, the answer is a cached certificate listing that address (the default and
fallback names are not consulted) -/
theorem C03_ip_first (e : Env) (cfg : Cfg) (s : State) (h : Hello) (r : Req) (hI : Inv s) (ip : Name)
    (hsni : h.sni = []) (hconn : h.conn = some ip) (hex : ∃ c0, Cached s c0 ∧ ip ∈ c0.names) :
    ∃ c, getCert e cfg s h r = .ok c ∧ Cached s c ∧ ip ∈ c.names :=
  getCert_first_attempt hI (by unfold attempts; rw [if_pos hsni, hconn]; rfl) hex

/-- **an unexpired supported certificate is preferred**: an answer from the cache is the
selector's choice among ALL cached certificates listing the index key that matched, and if
one of those is supported by the client and currently valid, so is the answer -/
theorem C03_prefers_valid (e : Env) (cfg : Cfg) (s : State) (h : Hello) (r : Req) (c : Cert) (hI : Inv s)
    (hg : getCert e cfg s h r = .ok c) :
    FromStorage cfg s h r c ∨
    ∃ key how, Origin cfg h key how ∧ c ∈ matching s key ∧
      (∀ c', Cached s c' → key ∈ c'.names → e.good c' = true → e.good c = true) := by
  refine (getCert_ok hg).imp_right fun ⟨key, how, ho, hsel⟩ => ?_
  refine ⟨key, how, ho, (selectDefault_spec hsel).1, fun c' hc' hk hgood => ?_⟩
  exact (selectDefault_spec hsel).2 ⟨c', (mem_matching_iff hI key c').mpr ⟨hc', hk⟩, hgood⟩

/-- the selector itself (closed form: `selectDefault_cons`, `scan_eq`): its choice is one of the
list, and a supported valid choice is never passed over -/
theorem C03_selector_prefers_valid (e : Env) (l : List Cert) (c : Cert) (h : selectDefault e l = some c) :
    c ∈ l ∧ ((∃ c', c' ∈ l ∧ e.good c' = true) → e.good c = true) :=
  selectDefault_spec h

/-- an unusable request name is an error unless the cache matched: IDNA conversion failed, or
the name does not qualify (empty, leading/trailing dot, misplaced `*`, special characters) -/
theorem C03_error_bad_name (e : Env) (cfg : Cfg) (s : State) (h : Hello) (r : Req)
    (hnm : ∀ c, fromCache e cfg s h ≠ some (c, .matched))
    (hbad : requestName cfg h r = none ∨ ∃ name, requestName cfg h r = some name ∧ qualifies name = false) :
    getCert e cfg s h r = .err := by
  obtain ⟨d, hd⟩ := getCert_of_not_matched (r := r) hnm
  rw [hd, afterMiss_err_of_bad hbad]

/-- **error iff nothing is available**: for a usable request name and nothing loaded from
storage, the lookup fails exactly when no cached certificate lists any of the keys tried —
the name, its wildcard forms (or the local IP and the default name when there is no SNI),
and the fallback name -/
theorem C03_error_iff_none (e : Env) (cfg : Cfg) (s : State) (h : Hello) (r : Req) (hI : Inv s) (name : Name)
    (hname : requestName cfg h r = some name) (hq : qualifies name = true)
    (hst : almostFull s = false ∨ loadStored r.stored name = none) :
    getCert e cfg s h r = .err ↔ ∀ n, n ∈ keysTried cfg h → ∀ c, Cached s c → n ∉ c.names := by
  have hload : (if almostFull s = true then loadStored r.stored name else none) = none := by
    rcases hst with h1 | h1 <;> simp [h1]
  have ham : ∀ d, afterMiss cfg s h r d = .err ↔ d = none := by
    intro d
    rw [afterMiss_of_name hname hq, hload]
    cases d <;> simp
  have hnone : fromCache e cfg s h = none ↔ ∀ n, n ∈ keysTried cfg h → ∀ c, Cached s c → n ∉ c.names := by
    rw [fromCache_none]
    exact forall_congr' fun n => imp_congr_right fun _ => matching_eq_nil_iff hI
  rw [← hnone]
  fun_cases getCert e cfg s h r
  next c hf => simp [hf]
  next c hf => simp [hf, ham]
  next hf => simp [hf, ham]

/-- when the cache is almost full, a bundle stored for the name is served before the
default/fallback certificate -/
theorem C03_storage_before_default (e : Env) (cfg : Cfg) (s : State) (h : Hello) (r : Req) (name : Name) (c : Cert)
    (hnm : ∀ c', fromCache e cfg s h ≠ some (c', .matched))
    (hname : requestName cfg h r = some name) (hq : qualifies name = true)
    (haf : almostFull s = true) (hl : loadStored r.stored name = some c) :
    getCert e cfg s h r = .ok c := by
  obtain ⟨d, hd⟩ := getCert_of_not_matched (r := r) hnm
  rw [hd, afterMiss_of_name hname hq, if_pos haf, hl]
  rfl

/-! ### non-vacuity: a concrete cache, hellos and configurations -/

section Examples

def cA : Cert := { hash := "hA", names := ["a.example".toList], tags := [], managed := false, issuer := "", ari := 0 }
def cA2 : Cert := { hash := "hA2", names := ["a.example".toList, "10.0.0.1".toList], tags := [], managed := false, issuer := "", ari := 0 }
def cW : Cert := { hash := "hW", names := ["*.example".toList], tags := [], managed := false, issuer := "", ari := 0 }
def cD : Cert := { hash := "hD", names := ["default.test".toList], tags := [], managed := true, issuer := "i", ari := 0 }

/-- capacity 4 holding four certificates (so: almost full); `a.example` is listed by an
expired certificate (`hA`) and by a valid one (`hA2`) -/
def exState : State := insertNew cD (insertNew cW (insertNew cA2 (insertNew cA (init 4))))

def exEnv : Env :=
  { now := 100 * sec
    view := fun h => { supported := true, nb := 0, na := if h = "hA" then 50 * sec else 200 * sec, complete := true } }

def exCfg : Cfg := { defaultName := some "default.test".toList, fallbackName := none }
def exReq (n : String) : Req := { idna := some n.toList, stored := [("s.other".toList, cD)] }
def exHello (n : String) : Hello := { sni := n.toList, conn := some "10.0.0.1".toList }

example : Inv exState := C12_inv_run [.add cA none, .add cA2 none, .add cW none, .add cD none] (init 4) exState
  (C12_inv_init 4) (by decide +kernel)
example : almostFull exState = true := by decide +kernel
-- exact match, and the valid certificate is preferred over the expired one listed first
example : getCert exEnv exCfg exState (exHello "a.example") (exReq "a.example") = .ok cA2 := by decide +kernel
example : matching exState "a.example".toList = [cA, cA2] ∧ exEnv.good cA = false ∧ exEnv.good cA2 = true := by decide +kernel
-- wildcard match by replacing the leftmost label
example : getCert exEnv exCfg exState (exHello "b.example") (exReq "b.example") = .ok cW := by decide +kernel
example : covers "b.example".toList cW.names := Or.inr ⟨1, by decide, by decide +kernel, by decide +kernel⟩
-- two labels replaced: not covered by `*.example`; almost full, nothing stored: error (fix D3)
example : getCert exEnv { exCfg with defaultName := none } exState (exHello "x.y.example") (exReq "x.y.example") = .err := by decide +kernel
-- no SNI: local IP first, although a default name is configured
example : getCert exEnv exCfg exState (exHello "") (exReq "") = .ok cA2 := by decide +kernel
-- no SNI, no certificate for the local IP: the default name's certificate
example : getCert exEnv exCfg exState { sni := [], conn := some "10.9.9.9".toList } (exReq "") = .ok cD := by decide +kernel
-- almost full and the name's bundle is in storage: that one is served
example : getCert exEnv exCfg exState (exHello "s.other") (exReq "s.other") = .ok cD := by decide +kernel
-- a name that does not qualify is an error even though a fallback exists
example : getCert exEnv { defaultName := none, fallbackName := some "default.test".toList } exState
    (exHello "bad name.test") (exReq "bad name.test") = .err := by decide +kernel
example : getCert exEnv { defaultName := none, fallbackName := some "default.test".toList } exState
    (exHello "good-name.test") (exReq "good-name.test") = .ok cD := by decide +kernel
example : matchWildcard "x.y.example".toList "*.*.example".toList = true ∧
    matchWildcard "x.y.example".toList "*.example".toList = false := by decide +kernel

end Examples

end CM.Lookup
