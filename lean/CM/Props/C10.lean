import CM.Proofs.AtomicFile
import CM.Proofs.FileTree
/-!
# C10 — file-storage reads see whole values; keys and prefixes behave as documented

Models: `CM/Model/AtomicFile.lean` (write protocol of `FileStorage.Store` / read of
`FileStorage.Load`, any number of writers and readers, any interleaving, writer death at any
step), `CM/Lib/KV.lean` (the `Storage` contract) and `CM/Model/FileTree.lean` (`FileStorage`
on a POSIX tree). Helper lemmas: `CM/Proofs/AtomicFile.lean`, `CM/Proofs/FileTree.lean`.
-/
namespace CM.AtomicFile

variable {val : Nat → Bytes} {init : Option Bytes}

/-- **Reads see whole values.** In every reachable state, a reader that has completed
returns exactly the value the destination had at the instant of its `open`: the complete
value of the last writer whose `rename` preceded the open, or the initial value if there
was none (`a` is the number of renames that preceded the open). Never a prefix, never a
mixture, never empty unless that value is empty, and not-exist only if the key was absent
initially and nobody had renamed yet. -/
theorem C10_whole_values {s : State} (h : Reachable val init s) (r : Nat) (res : Option Bytes) (a : Nat)
    (hr : s.r r = .done res a) :
    a ≤ s.renamed.length ∧ res = current val init (s.renamed.take a) ∧
    (res = init ∨ ∃ w ∈ s.renamed.take a, res = some (val w)) := by
  obtain ⟨h1, h2⟩ := (inv_reachable h).done_ok r res a hr
  refine ⟨h1, h2, ?_⟩
  rw [h2]
  fun_cases current val init (s.renamed.take a)
  next w hl => exact Or.inr ⟨w, List.mem_of_getLast? hl, rfl⟩
  next => exact Or.inl rfl

/-- a reader in mid-read has only ever seen a prefix of that one complete value (it can
never be handed bytes of two different writers) -/
theorem C10_reading_prefix {s : State} (h : Reachable val init s) (r i : Nat) (buf : Bytes) (a : Nat)
    (hr : s.r r = .reading i buf a) :
    ∃ v, current val init (s.renamed.take a) = some v ∧ buf <+: v := by
  obtain ⟨_, _, _, h4, h5⟩ := (inv_reachable h).rd_ok r i buf a hr
  exact ⟨s.ino i, h4.symm, h5⟩

/-- **Last store wins.** In every reachable state the destination name holds exactly the
complete value of the last `rename` (or the initial value) … -/
theorem C10_last_wins {s : State} (h : Reachable val init s) :
    dstContent s = current val init s.renamed := by
  have I := inv_reachable h
  unfold dstContent
  cases hd : s.dst with
  | none => simp [I.dst_none hd]
  | some i => simpa using (I.dst_ok i hd).2.2

/-- … so a reader that opens once the Stores have completed (`a = renamed.length`: no
rename happened after its open) returns the value of the last Store that renamed. -/
theorem C10_last_wins_read {s : State} (h : Reachable val init s) (r : Nat) (res : Option Bytes)
    (hr : s.r r = .done res s.renamed.length) (w : Nat) (hw : s.renamed.getLast? = some w) :
    res = some (val w) := by
  have := (C10_whole_values h r res _ hr).2.1
  rw [this]; simp [current, hw]

/-- **A killed writer leaves the old or the new value.** Killing writer `w` at any point
does not change what the destination holds, which is a *complete* value — the initial one
or that of a writer whose rename happened; `w`'s own value is there only if `w` had
already renamed (killed between the rename and the return of `Store`). -/
theorem C10_crash_old_or_new {s s' : State} (h : Reachable val init s) (w : Nat)
    (hs : step val s (.wCrash w) = some s') :
    dstContent s' = dstContent s ∧ dstContent s' = current val init s'.renamed ∧
    (s'.w w = .crashed → w ∉ s'.renamed) ∧ (s'.w w = .crashedAfter → w ∈ s'.renamed) := by
  have h' : Reachable val init s' := .step h hs
  have I' := inv_reachable h'
  refine ⟨?_, C10_last_wins h', ?_, ?_⟩
  · -- a crash only rewrites `s.w w`: `dst` and `ino` are the same fields in all four live branches
    dsimp only [step] at hs
    split at hs <;> cases hs <;> rfl
  · intro hc hm
    have := (I'.ren_iff w).mp hm
    rw [hc] at this; simp at this
  · intro hc
    exact (I'.ren_iff w).mpr (Or.inr hc)

/-- with a single writer `w` (all others idle) the destination holds the old value or the
complete new one, whatever happened to `w` -/
theorem C10_crash_single_writer {s : State} (h : Reachable val init s) (w : Nat)
    (hidle : ∀ x, x ≠ w → s.w x = .idle) :
    dstContent s = init ∨ dstContent s = some (val w) := by
  rw [C10_last_wins h]
  fun_cases current val init s.renamed
  next x hl =>
    have hx := ((inv_reachable h).ren_iff x).mp (List.mem_of_getLast? hl)
    by_cases hxw : x = w
    · subst hxw; exact Or.inr rfl
    · rw [hidle x hxw] at hx; simp at hx
  next => exact Or.inl rfl

/-! ### non-vacuity: a concrete interleaving -/

/-- writer 1 stores `[1,2,3]`, writer 2 stores `[7,8]` -/
def exVal : Nat → Bytes := fun w => if w = 1 then [1, 2, 3] else [7, 8]

/-- writer 1 creates and writes in two chunks; reader 0 opens (sees the initial value's
inode); writer 1 renames; reader 5 opens; writer 2 writes and renames; both readers finish -/
def exRun : List Ev :=
  [.wCreate 1, .wWrite 1 2, .rOpen 0, .wWrite 1 5, .wSync 1, .wClose 1, .rRead 0 1, .wRename 1,
   .rOpen 5, .wCreate 2, .wWrite 2 1, .rRead 5 2, .wWrite 2 1, .wSync 2, .wClose 2, .wRename 2,
   .rRead 5 9, .rEOF 5, .rRead 0 1, .rEOF 0, .wCreate 3, .wWrite 3 1, .wCrash 3]

example : ((run exVal (initState (some [4, 4])) exRun).map
    (fun s => (s.r 0, s.r 5, dstContent s, s.renamed, s.w 3))) =
    some (.done (some [4, 4]) 0, .done (some [1, 2, 3]) 1, some [7, 8], [1, 2], .crashed) := by decide +kernel

/-- a reader of an absent key gets not-exist -/
example : ((run exVal (initState none) [.rOpen 0, .wCreate 1]).map (fun s => s.r 0)) =
    some (.done none 0) := by decide +kernel

/-- `rename` is not enabled before `sync` and `close` (the order the tie checks) -/
example : ((run exVal (initState none) [.wCreate 1, .wWrite 1 3, .wRename 1]).isNone) = true := by decide +kernel
example : ((run exVal (initState none) [.wCreate 1, .wWrite 1 2, .wSync 1]).isNone) = true := by decide +kernel

end CM.AtomicFile

namespace CM.KV
variable {κ : Type} [DecidableEq κ] {ν : Type}

/-- a stored value is read back; other keys are unaffected -/
theorem C10_load_store (s : Store κ ν) (k k' : Key κ) (v : ν) :
    load (store s k v) k' = if k' = k then some v else load s k' := load_store s k k' v

/-- a key exists iff it is a prefix (by whole components) of a key that has a value -/
theorem C10_exists_iff (s : Store κ ν) (k : Key κ) :
    «exists» s k = true ↔ ∃ k' v, load s k' = some v ∧ k <+: k' := exists_iff s k

/-- deleting a prefix removes everything under it — by whole components — and nothing else -/
theorem C10_delete_prefix_exact (s : Store κ ν) (p k : Key κ) :
    load (delete s p) k = if p <+: k then none else load s k := delete_prefix_exact s p k

/-- non-recursive List returns exactly the direct children -/
theorem C10_list_nonrecursive (s : Store κ ν) (p : Key κ) (h : p = [] ∨ «exists» s p = true) :
    ∃ l, list s p false = some l ∧ ∀ x, x ∈ l ↔ ((∃ c, x = p ++ [c]) ∧ «exists» s x = true) :=
  ⟨children s p, list_some s p false h, list_nonrecursive s p⟩

/-- recursive List returns exactly the descendants -/
theorem C10_list_recursive (s : Store κ ν) (p : Key κ) (h : p = [] ∨ «exists» s p = true) :
    ∃ l, list s p true = some l ∧ ∀ x, x ∈ l ↔ (p <+: x ∧ x ≠ p ∧ «exists» s x = true) :=
  ⟨descendants s p, list_some s p true h, list_recursive s p⟩

/-- missing keys report not-exist (Load, Stat, List) and deleting them changes nothing -/
theorem C10_missing_notexist (sz : ν → Nat) (s : Store κ ν) (k : Key κ) (h : «exists» s k = false) :
    load s k = none ∧ stat sz s k = none ∧ (k ≠ [] → ∀ r, list s k r = none) ∧
    (∀ k', load (delete s k) k' = load s k') := by
  have hnone : ∀ k', k <+: k' → load s k' = none := fun k' hp =>
    Option.eq_none_iff_forall_ne_some.mpr fun v hv => exists_eq_false_iff.mp h k' v hv hp
  have hl := hnone k (List.prefix_refl k)
  refine ⟨hl, by simp [stat, hl, h], fun hk r => by simp [list, hk, h], fun k' => ?_⟩
  rw [delete_prefix_exact]
  split
  · rename_i hp
    exact (hnone k' hp).symm
  · rfl

/-- prefixes are matched by whole components: `a` is no prefix of `ab/c` -/
example : load (delete (store ([] : Store String Nat) ["ab", "c"] 2) ["a"]) ["ab", "c"] = some 2 := by decide +kernel

end CM.KV

namespace CM.FileTree
open CM.KV
variable {κ : Type} [DecidableEq κ] {ν : Type}

/-- the stored values evolve exactly as in the contract: a successful Store is `KV.store`,
a Delete that does not run through a file is `KV.delete` -/
theorem C10_fs_store_delete (t : FS κ ν) (k : Key κ) (v : ν) :
    ((fsStore t k v).1 = .ok () → (fsStore t k v).2.files = KV.store t.files k v) ∧
    ((fsStore t k v).1 ≠ .ok () → (fsStore t k v).2.files = t.files) ∧
    ((fsDelete t k).1 = .ok () → (fsDelete t k).2.files = KV.delete t.files k) := by
  unfold fsStore fsDelete
  cases thruFile t k
  · cases isDir t k
    · exact ⟨fun _ => rfl, fun h => absurd rfl h, fun _ => rfl⟩
    · exact ⟨nofun, fun _ => rfl, fun _ => rfl⟩
  · exact ⟨nofun, fun _ => rfl, nofun⟩

/-- Load returns a value exactly when the contract has one (paths through a file aside) -/
theorem C10_fs_load (t : FS κ ν) (k : Key κ) (h : thruFile t k = false) (v : ν) :
    fsLoad t k = .ok v ↔ KV.load t.files k = some v := by
  unfold fsLoad
  rw [h]
  cases load t.files k with
  | none => cases isDir t k <;> simp
  | some v' => simp

/-- on a well-formed tree, for every key that is a file, a directory of the contract or
missing (i.e. not a path through a file and not an empty directory left on disk),
Exists / Stat / Load answer what the contract says, and a missing key reports not-exist
from Load, Stat and List. (`hk` is not used: the same holds of the root, which is never
`.missing` on a well-formed tree.) -/
theorem C10_fs_refines (sz : ν → Nat) (t : FS κ ν) (W : WF t) (k : Key κ) (hk : k ≠ [])
    (hc : classify t k = .file ∨ classify t k = .dir ∨ classify t k = .missing) :
    fsExists t k = KV.exists t.files k ∧
    fsStat sz t k = (match KV.stat sz t.files k with | some i => .ok i | none => .notexist) ∧
    (classify t k = .missing → fsLoad t k = .notexist ∧ ∀ r, fsList t k r = .notexist) := by
  have hs := classify_spec W k
  rcases hc with hc | hc | hc <;> rw [hc] at hs
  · obtain ⟨v, hv, hth⟩ := hs
    exact ⟨by simp [fsExists, isFile, hv, exists_of_load hv], by simp [fsStat, hth, hv, KV.stat],
      fun h => by rw [hc] at h; cases h⟩
  · obtain ⟨hl, hth, hex, hD⟩ := hs
    exact ⟨by simp [fsExists, hD, hex], by simp [fsStat, hth, hl, hD, KV.stat, hex],
      fun h => by rw [hc] at h; cases h⟩
  · obtain ⟨hl, hth, hex, hD⟩ := hs
    exact ⟨by simp [fsExists, isFile, hl, hth, hD, hex], by simp [fsStat, hth, hl, hD, KV.stat, hex],
      fun _ => ⟨by simp [fsLoad, hth, hl, hD], fun r => by simp [fsList, isFile, hth, hl, hD]⟩⟩

/-- `Store` keeps the tree well-formed, whether it succeeds or not -/
theorem C10_fs_wf_store (t : FS κ ν) (W : WF t) (k : Key κ) (hk : k ≠ []) (v : ν) : WF (fsStore t k v).2 := by
  fun_cases fsStore t k v
  next => exact W
  next hth _ _ => exact wf_mkdirAll W k (Bool.eq_false_iff.mpr hth)
  next hth _ hD =>
    have hth := Bool.eq_false_iff.mpr hth
    refine wf_put (wf_mkdirAll W k hth) k hk v (fun h => ?_) (fun d hd => mem_addDirs.mpr (Or.inr hd))
    rcases mem_addDirs.mp h with h | h
    · exact hD (isDir_iff.mpr (Or.inr h))
    · exact (mem_parents.mp h).2.2 rfl

/-- `Delete` keeps the tree well-formed -/
theorem C10_fs_wf_delete (t : FS κ ν) (W : WF t) (k : Key κ) : WF (fsDelete t k).2 := by
  fun_cases fsDelete t k
  next => exact W
  next => exact wf_removeAll W k

/-- on a well-formed tree a listing of a directory contains every node the contract lists,
and anything else it contains is an empty directory left on disk -/
theorem C10_fs_list (t : FS κ ν) (W : WF t) (p : Key κ) (r : Bool)
    (hp : p = [] ∨ classify t p = .dir) :
    ∃ l, fsList t p r = .ok l ∧
      (∀ x, (∃ want, KV.list t.files p r = some want ∧ x ∈ want) → x ∈ l) ∧
      (∀ x ∈ l, (∃ want, KV.list t.files p r = some want ∧ x ∈ want) ∨ classify t x = .linger) := by
  obtain ⟨hth, hf, hD, hex⟩ := dir_on_disk W hp
  obtain ⟨l, hl, hmem⟩ := fsList_dir hth hf hD r
  have hlist := list_some t.files p r hex
  refine ⟨l, hl, ?_, ?_⟩
  · rintro x ⟨want, hw, hx⟩
    obtain ⟨⟨hpx, hne, he⟩, hr⟩ := (mem_list hw x).mp hx
    have hx0 : x ≠ [] := fun h => hne (by subst h; exact (List.prefix_nil.mp hpx).symm)
    exact (hmem x).mpr ⟨mem_nodes_of_exists W hx0 he, ⟨hpx, hne⟩, hr⟩
  · intro x hx
    obtain ⟨hn, ⟨hpx, hne⟩, hr⟩ := (hmem x).mp hx
    by_cases he : KV.exists t.files x = true
    · exact Or.inl ⟨_, hlist, (mem_list hlist x).mpr ⟨⟨hpx, hne, he⟩, hr⟩⟩
    · exact Or.inr (linger_of_not_exists W hn he)

example : WF (fsStore (FS.empty : FS Nat Nat) [1, 2] 5).2 := C10_fs_wf_store _ wf_empty _ (by decide) _

end CM.FileTree
