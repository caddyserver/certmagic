import CM.Proofs.Issue
import CM.Proofs.IssueTerm
/-!
# C01 — issuance for a name is serialised and never repeated cluster-wide

Theorems about the LTS of `CM/Model/Issue.lean`, for **every number of requests**, every
mix of obtain / renew / manage, sync or async, every schedule, every pattern of issuer and
storage failures, and holders dying with the lock. Assumed (H_lock): the `Locker` grants a
name to one holder at a time and takes a lock over only from a dead holder (C08 for
`FileStorage`); that all spellings of a subject map to one lock and one storage key is
checked on the real key builders by the harness (after the `fix:` commit that
canonicalises the subject at the entry of obtain/renew).
-/
namespace CM.Issue

variable {due : Ver → Bool}

/-- **Serialised**: in every reachable state, two requests that are inside the issuer are
the same request. -/
theorem C01_mutex {s : St} (h : Reach due s) (p q : Nat)
    (hp : s.pc p = .issuing) (hq : s.pc q = .issuing) : p = q :=
  holder_unique (inv_reach h) (hp ▸ rfl) (hq ▸ rfl)

/-- the same for the whole "decided to issue … saved" region, and it implies holding the lock -/
theorem C01_issuer_holds_lock {s : St} (h : Reach due s) (p : Nat)
    (hp : (s.pc p).wantsIssue = true) : s.lock = some p :=
  (inv_reach h).cs_holds p (wantsIssue_inCS hp)

/-- **Never repeated**: from any reachable state in which a fresh bundle is stored, along
every continuation of the run no issuance begins and the stored bundle stays the same —
so all requests end up with the same stored certificate. -/
theorem C01_no_repeat {s : St} (h : Reach due s) (hf : fresh due s = true) :
    ∀ (es : List Ev) (s' : St), run due s es = some s' →
      s'.stored = s.stored ∧ es.all (fun e => !e.isIssueBegin) = true := by
  intro es s' hr
  obtain ⟨h1, h2, _⟩ := fresh_run (inv_reach h) hf hr
  exact ⟨h1, h2⟩

/-- **Waiters and late arrivals succeed without the issuer**: once a fresh bundle is
stored, every request that has not yet begun, is waiting for the lock, or holds it for its
re-check, completes — along every continuation — with success and without ever contacting
the issuer. -/
theorem C01_waiters_succeed {s : St} (h : Reach due s) (hf : fresh due s = true) (p : Nat)
    (hq : Quiet s p) :
    ∀ (es : List Ev) (s' : St), run due s es = some s' →
      s'.contacted p = false ∧ ∀ ok, s'.pc p = .done ok → ok = true := by
  intro es s' hr
  obtain ⟨hct, hpc⟩ := (fresh_run (inv_reach h) hf hr).2.2 p hq
  refine ⟨hct, fun ok hd => ?_⟩
  rw [hd] at hpc
  cases ok with
  | true => rfl
  | false => cases hpc

/-- **Take-over**: in every reachable state in which some request waits for the lock, a
step is enabled that moves things forward: the waiter acquires the free lock, or the live
holder takes its next step (every point of the critical section has one, so a failing
leader releases), or the dead holder's lock is taken over. Nobody waits on nothing. -/
theorem C01_takeover {s : St} (h : Reach due s) (p : Nat) (hp : s.pc p = .wantLock) :
    (s.lock = none ∧ (step due s (.acq p)).isSome = true) ∨
    (∃ q, s.lock = some q ∧ s.pc q = .dead ∧ (step due s .expire).isSome = true) ∨
    (∃ q e, s.lock = some q ∧ (s.pc q).inCS = true ∧ (step due s e).isSome = true ∧
       (e = .recheck q ∨ e = .issueBegin q ∨ e = .issueEnd q true ∨ e = .saveOk q ∨
        e = .giveUp q ∨ e = .rel q)) := by
  rcases Option.eq_none_or_eq_some s.lock with hl | ⟨q, hl⟩
  · exact .inl ⟨hl, by simp [step, hp, hl]⟩
  · rcases holderOk_reach h q hl with hcs | hd
    · obtain ⟨e, he, hq⟩ := cs_enabled (due := due) hcs
      exact .inr (.inr ⟨q, e, hl, hcs, he, hq⟩)
    · exact .inr (.inl ⟨q, hl, hd, by simp [step, hl, hd]⟩)

/-- **Nobody hangs (1)**: every run of `n` requests is finite, with an explicit bound — each
step strictly decreases a measure built from the program counters and the remaining retry
budgets (`doWithRetry` gives up after its maximum duration). -/
theorem C01_terminates {s s' : St} (h : Reach due s) (n : Nat) (es : List Ev)
    (hn : ∀ e ∈ es, ∀ p, e.proc = some p → p < n) (hr : run due s es = some s') :
    es.length ≤ mu n s := by
  have := run_length_le hn hr
  omega

/-- **Nobody hangs (2)**: a state in which no step is enabled has nobody waiting for the
lock — so every maximal run ends with every request finished (or dead), none left hanging
behind a failed or dead leader. -/
theorem C01_final_no_waiter {s : St} (h : Reach due s) (hfin : ∀ e, step due s e = none) (p : Nat) :
    s.pc p ≠ .wantLock := by
  intro hp
  rcases C01_takeover h p hp with ⟨_, h1⟩ | ⟨q, _, _, h1⟩ | ⟨q, e, _, _, h1, _⟩ <;>
    · rw [hfin] at h1; cases h1

/-- three requests on an empty store: 0 = async obtain, 1 = renew, 2 = manage -/
def ex0 : St := { lock := none, stored := none, next := 1, pc := fun _ => .start
                  kind := fun p => if p = 0 then .obtain else if p = 1 then .renew else .manage
                  async := fun p => p = 0, budget := fun _ => 3, contacted := fun _ => false, issuedBy := fun _ => 0 }

example : initial ex0 := by
  refine ⟨rfl, fun _ => rfl, fun _ => rfl, fun _ => rfl, Or.inl rfl, rfl⟩

/-- request 0 leads, its first attempt fails, it retries inside the lock and saves; the
manage request (2), which had found nothing and become an obtain, then finds the bundle;
the renew request (1) acquires afterwards and finds it not due -/
def exRun : List Ev :=
  [.pre 0, .pre 2, .pre 2, .acq 0, .recheck 0, .issueBegin 0, .issueEnd 0 false, .retry 0, .recheck 0,
   .issueBegin 0, .issueEnd 0 true, .saveOk 0, .rel 0, .pre 1, .acq 2, .recheck 2, .rel 2,
   .acq 1, .recheck 1, .rel 1]

-- the bound `C01_terminates` gives for `ex0`: ranks 12 + 12 + 13 at `start`, 3 · 30 for the budgets; `exRun` has 20 events
example : mu 3 ex0 = 127 := by decide +kernel

example : (run (fun _ => false) ex0 exRun).map
    (fun s => (s.stored, s.pc 0, s.pc 1, s.pc 2, s.contacted 1, s.contacted 2, s.issuedBy 0)) =
    some (some 1, .done true, .done true, .done true, false, false, 1) := by
  -- not `decide`: `DecidableEq` of a seven-tuple is beyond the default size limit of instance resolution
  rfl

/-! ### what H_lock is needed for: the stale-lock race of the file-system locker (finding D27)

The theorems above are about the LTS whose `acq` needs `lock = none` and whose `expire` frees
only a DEAD holder's lock — the contract H_lock of `Locker`. `FileStorage` departs from it in
one documented situation (package comment; the file-lock model's example "Documented
non-guarantee", `CM/Props/C08.lean`): a waiter that read the lock file while it was stale
removes "it" after another waiter has already created its own — it takes the lock from a
LIVE holder. Adding exactly that step refutes mutual exclusion, with the history the
OS-process rig observed on the real code (leader killed inside the issuer, two waiters). -/

/-- the racing take-over: `p` waits, a live `q` holds the lock, `p` takes it all the same -/
def stealStep (s : St) (p : Nat) : Option St :=
  match s.lock with
  | some q =>
    if s.pc p = .wantLock ∧ q ≠ p ∧ (s.pc q).inCS = true then
      some { s with lock := some p, pc := upd s.pc p .recheck }
    else none
  | none => none

/-- runs of the LTS extended with the racing take-over (`.inr p`) -/
def runR (due : Ver → Bool) : St → List (Ev ⊕ Nat) → Option St
  | s, [] => some s
  | s, .inl e :: es => (step due s e).bind (fun s' => runR due s' es)
  | s, .inr p :: es => (stealStep s p).bind (fun s' => runR due s' es)

/-- three obtain requests on an empty store -/
def exR0 : St := { ex0 with kind := fun _ => .obtain, async := fun _ => false }

/-- request 0 leads and is killed inside the issuer; its lock goes stale and is taken over by
request 1 (a legitimate `expire` + `acq`), which enters the issuer; request 2, which had seen
the same stale file, takes the lock from the live request 1 and enters the issuer as well -/
def exRace : List (Ev ⊕ Nat) :=
  [.inl (.pre 0), .inl (.acq 0), .inl (.recheck 0), .inl (.issueBegin 0), .inl (.die 0),
   .inl (.pre 1), .inl (.pre 2), .inl .expire, .inl (.acq 1), .inl (.recheck 1), .inl (.issueBegin 1),
   .inr 2, .inl (.recheck 2), .inl (.issueBegin 2)]

/-- **C01_mutex needs H_lock**: with the racing take-over two live requests are inside the
issuer at once (known finding D27; compare `C01_mutex`, which excludes it for every run of the
LTS proper) -/
theorem C01_mutex_refuted_by_stale_race :
    (runR (fun _ => false) exR0 exRace).map (fun s => (s.pc 0, s.pc 1, s.pc 2, s.lock)) =
      some (.dead, .issuing, .issuing, some 2) := by decide +kernel

/-- … and the race is the ONLY thing added: without its step the same prefix leaves request 2
waiting (the `acq` of the LTS proper is not enabled while request 1 holds the lock) -/
theorem C01_no_race_no_overlap :
    (runR (fun _ => false) exR0 (exRace.take 11)).bind (fun s => step (fun _ => false) s (.acq 2)) = none := by decide +kernel

end CM.Issue
