import CM.Lib.Skel
/-!
# C09 — every operation releases the storage locks it took, on every exit path

The property is a statement about *programs* (every path through each operation, with a
failure, panic or cancellation at any call). It is decided by a verified checker: the
theorem below is proved once, for every skeleton program; `CM/Tie/C09.lean` then
evaluates the checker (by `decide`, in the kernel) on the skeletons regenerated from
`/repo` on this run, for EVERY function that calls `acquireLock`.
-/
namespace CM.Skel

/-- Lock discipline, function level: if the checker accepts a function body entered with
no pending lock, then on every execution — normal completion, return, or a panic raised
by any call, whatever fails and wherever — no lock acquired by the function is left that
is neither released nor covered by a registered deferred release (which Go runs on every
exit, return or panic). -/
theorem C09_lock_discipline_sound (body : Sk) (h : check body 0 = some 0)
    (o : Out) (r : Nat) (he : Exec body 0 o r) : r = 0 :=
  Decidable.byCases (check_sound h he).1 (check_sound h he).2

/-- the same for any accepted block entered with `p` pending locks -/
theorem C09_block_sound {s : Sk} {p q : Nat} {o : Out} {r : Nat}
    (hc : check s p = some q) (he : Exec s p o r) :
    (o = .normal → r = q) ∧ (o ≠ .normal → r = 0) := check_sound hc he

/-! ### the checker is not vacuous: it accepts the idiom and rejects its broken variants -/

/-- `err := acquireLock(); if err != nil {return}; defer release(); loop { call | return }; return` -/
def idiom : Sk :=
  .seq (.acq .ret) (.seq (.dfr (.fn (.seq (.act "releaseLock") (.br "err != nil" .skip .skip))))
    (.seq (.loop (.br "?" (.act "storage.Store") .ret)) .ret))

example : check idiom 0 = some 0 := by decide +kernel
/-- defer removed: rejected -/
example : check (.seq (.acq .ret) (.seq (.act "storage.Store") (.seq (.act "releaseLock") .ret))) 0 = none := by decide +kernel
/-- early return inserted between the acquire and the defer: rejected -/
example : check (.seq (.acq .ret) (.seq (.br "x" .ret .skip) (.seq (.dfr (.act "releaseLock")) .ret))) 0 = none := by decide +kernel
/-- release only on one branch: rejected -/
example : check (.seq (.acq .ret) (.seq (.br "x" (.dfr (.act "releaseLock")) .skip) .ret)) 0 = none := by decide +kernel
/-- an execution of the idiom in which the second call panics ends with nothing pending -/
example : Exec idiom 0 .panicked 0 := by
  apply Exec.seqGo Exec.acqOk
  apply Exec.seqGo (Exec.dfrRel rfl)
  apply Exec.seqStop (by decide)
  apply Exec.loopGo (Exec.brL (Exec.actOk (by decide +kernel)))
  apply Exec.loopStop (by decide)
  exact Exec.brL (Exec.actPanic (by decide +kernel))

end CM.Skel
