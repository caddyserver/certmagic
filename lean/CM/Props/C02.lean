import CM.Model.Handshake
/-!
# C02 — on-demand TLS never issues or loads for names the policy does not permit

All statements are about the effect program `getCert c f` (one handshake,
`getCertDuringHandshake(ctx, hello, true)`) and `reentry c f own` (the code a handshake runs
when it re-enters with loading disabled after a wait), for EVERY configuration class, every
name, every allow-list and every oracle (= every behaviour of cache, storage, policy
function, issuer, managers, other goroutines). `decide` is used only on the finite program
trees, one per configuration class; `gatedAvoiding_sound` lifts it to all oracles.
-/
namespace CM.Props.C02
open CM.Prog CM.Handshake

/-- the facts of a handshake's name that the program depends on (DESIGN §9: the policy is
the decision function if set, otherwise the allow-list, enforced only when non-empty) -/
def factsOf (idnaOK : Bool) (name : List Char) (allowlist : List (List Char)) : Facts :=
  ⟨idnaOK, qualifies name, allowlist.isEmpty || allowlist.contains name⟩

/-- What a handshake must not do (the policy of DESIGN §9 as a table), by `od`: on-demand TLS
enabled, `fn`: a decision function configured, `q`: the name qualifies, `al`: it passes the
allow-list. The table takes these four Booleans and not `Cfg` and `Facts`: the kernel shares the
evaluation of sub-programs between configurations only under the same monitor term. -/
def excluded (od fn q al : Bool) (e : Eff) : Bool :=
  (isIssue e && !(od && q && (fn || al))) ||
  (isLoad e && !(q && (!od || fn || al))) ||
  (e == .gate && !(od && fn && q)) ||
  (e == .allow true && !(q && (!od || (!fn && al))))

theorem excluded_gate (od fn q al : Bool) : excluded od fn q al .gate = !(od && fn && q) :=
  -- the table computes to this row followed by `|| false` (the row of `allow true`)
  Bool.or_false _

theorem excluded_allow (od fn q al : Bool) :
    excluded od fn q al (.allow true) = !(q && (!od || (!fn && al))) :=
  rfl

theorem getCert_tree : ∀ (od fn q al mg af ar i : Bool),
    gatedAvoiding G (excluded od fn q al) (reify (getCert ⟨od, fn, mg, af, ar⟩ ⟨i, q, al⟩)) false = true := by
  decide +kernel

theorem reentry_tree : ∀ (od fn mg af ar i q al own : Bool),
    gatedAvoiding G guardedEff (reify (reentry ⟨od, fn, mg, af, ar⟩ ⟨i, q, al⟩ own)) false = true := by
  decide +kernel

theorem getCert_policy (c : Cfg) (f : Facts) (o : Nat → Bool) (n : Nat) :
    outGated G (run (reify (getCert c f)) o n) false = true ∧
    outNever (excluded c.onDemand c.func f.qualifies f.allow) (run (reify (getCert c f)) o n) = true :=
  gatedAvoiding_sound G _ _ false
    (getCert_tree c.onDemand c.func f.qualifies f.allow c.managers c.almostFull c.ari f.idnaOK) o n

/-- **C02_gated.** In every run of a handshake — any configuration, any name, any allow-list,
any behaviour of the environment — every issuer call and every certificate load, in the
handshake's own thread and in every goroutine it starts, is performed while the most recent
policy verdict *of the same thread* is "permit" (a goroutine starts without a permit). -/
theorem C02_gated (c : Cfg) (idnaOK : Bool) (name : List Char) (allowlist : List (List Char))
    (o : Nat → Bool) (n : Nat) :
    outGated G (run (reify (getCert c (factsOf idnaOK name allowlist))) o n) false = true :=
  (getCert_policy c _ o n).1

theorem reentry_policy (c : Cfg) (f : Facts) (own : Bool) (o : Nat → Bool) (n : Nat) :
    outGated G (run (reify (reentry c f own)) o n) false = true ∧
    outNever guardedEff (run (reify (reentry c f own)) o n) = true :=
  gatedAvoiding_sound G _ _ false
    (reentry_tree c.onDemand c.func c.managers c.almostFull c.ari f.idnaOK f.qualifies f.allow own) o n

/-- the same for the code run on re-entry after a wait (`reenter` events of `C02_gated`'s
traces stand for such segments; see `C02_splice`) -/
theorem C02_gated_reentry (c : Cfg) (idnaOK : Bool) (name : List Char) (allowlist : List (List Char))
    (own : Bool) (o : Nat → Bool) (n : Nat) :
    outGated G (run (reify (reentry c (factsOf idnaOK name allowlist) own)) o n) false = true :=
  (reentry_policy c _ own o n).1

/-- a re-entry (loading disabled) performs no issuer call and no certificate load at all -/
theorem C02_reentry_inert (c : Cfg) (f : Facts) (own : Bool) (o : Nat → Bool) (n : Nat) :
    outNever guardedEff (run (reify (reentry c f own)) o n) = true :=
  (reentry_policy c f own o n).2

/-- **C02_gated, declarative form.** Whenever a thread's trace splits as
`pre ++ (e, r) :: post` with `e` an issuer call or a certificate load, `pre` contains a
policy verdict *permit* that is the last verdict in `pre`. -/
theorem C02_gated_spec (c : Cfg) (idnaOK : Bool) (name : List Char) (allowlist : List (List Char))
    (o : Nat → Bool) (n : Nat) (t : Trace Eff)
    (ht : t ∈ (run (reify (getCert c (factsOf idnaOK name allowlist))) o n).threads)
    (pre post : Trace Eff) (e : Eff) (r : Bool) (hs : t = pre ++ (e, r) :: post)
    (he : isIssue e = true ∨ isLoad e = true) : PermitBefore G pre := by
  have h := outGated_iff.1 (C02_gated c idnaOK name allowlist o n) t ht
  rw [hs] at h
  exact (traceGated_spec G pre post e r false h (Bool.or_eq_true_iff.2 he)).resolve_right (fun h => nomatch h.1)

/-- a verdict *permit* is what it says: either the decision function answered "permit", or
the decision was taken without it (`allow true`) — and see `C02_static_permit_means` -/
theorem C02_permit_events (e : Eff) (r : Bool) (h : G.verdict e r = some true) :
    (e = .gate ∧ r = true) ∨ e = .allow true := by
  change verdictOf e r = some true at h
  revert h
  fun_cases verdictOf e r
  -- of the four clauses of `verdictOf` only `gate` and `allow` can give `some true`
  all_goals intro h; cases h
  · exact Or.inl ⟨rfl, rfl⟩
  · exact Or.inr rfl

/-- a decision "permit" taken without the decision function occurs only for a qualifying name
and either with on-demand TLS off (where only issuance is at stake: `C02_off`) or with no
decision function and an allow-list that is empty or contains the name -/
theorem C02_static_permit_means (c : Cfg) (idnaOK : Bool) (name : List Char) (allowlist : List (List Char))
    (o : Nat → Bool) (n : Nat) (t : Trace Eff)
    (ht : t ∈ (run (reify (getCert c (factsOf idnaOK name allowlist))) o n).threads)
    (x : Eff × Bool) (hx : x ∈ t) (hp : x.1 = .allow true) :
    qualifies name = true ∧ (c.onDemand = true → c.func = false ∧ (allowlist = [] ∨ name ∈ allowlist)) := by
  have h := outNever_iff.1 (getCert_policy c _ o n).2 t ht x hx
  rw [hp, excluded_allow] at h
  simp only [factsOf, Bool.not_eq_false', Bool.and_eq_true, Bool.or_eq_true, Bool.not_eq_true',
    List.isEmpty_iff, List.contains_iff_mem] at h
  exact ⟨h.1, fun hod => h.2.resolve_left (by simp [hod])⟩

/-- the decision function is called only with on-demand TLS enabled, a decision function
configured, and a qualifying name -/
theorem C02_gate_means (c : Cfg) (idnaOK : Bool) (name : List Char) (allowlist : List (List Char))
    (o : Nat → Bool) (n : Nat) (t : Trace Eff)
    (ht : t ∈ (run (reify (getCert c (factsOf idnaOK name allowlist))) o n).threads)
    (x : Eff × Bool) (hx : x ∈ t) (hp : x.1 = .gate) :
    c.onDemand = true ∧ c.func = true ∧ qualifies name = true := by
  have h := outNever_iff.1 (getCert_policy c _ o n).2 t ht x hx
  rw [hp, excluded_gate] at h
  simpa [factsOf, and_assoc] using h

/-- **C02_qualifying_only.** For a name that does not qualify syntactically no issuer call
and no certificate load happens at all. -/
theorem C02_qualifying_only (c : Cfg) (idnaOK : Bool) (name : List Char) (allowlist : List (List Char))
    (hq : qualifies name = false) (o : Nat → Bool) (n : Nat) :
    outNever guardedEff (run (reify (getCert c (factsOf idnaOK name allowlist))) o n) = true := by
  refine outNever_mono (fun e he => ?_) (getCert_policy c _ o n).2
  simp only [guardedEff, Bool.or_eq_true] at he
  -- with `q = false` the rows of `issue` and `load` in the table read `true`
  simp [excluded, factsOf, he, hq]

/-- **C02_allowlist.** On-demand TLS without a decision function and with a non-empty
allow-list not containing the name: no issuer call and no certificate load. -/
theorem C02_allowlist (c : Cfg) (idnaOK : Bool) (name : List Char) (allowlist : List (List Char))
    (hod : c.onDemand = true) (hf : c.func = false) (hne : allowlist ≠ []) (hnm : name ∉ allowlist)
    (o : Nat → Bool) (n : Nat) :
    outNever guardedEff (run (reify (getCert c (factsOf idnaOK name allowlist))) o n) = true := by
  refine outNever_mono (fun e he => ?_) (getCert_policy c _ o n).2
  simp only [guardedEff, Bool.or_eq_true] at he
  -- `al = false` here, and with `od = true`, `fn = false` the rows of `issue` and `load` read `true`
  simp [excluded, factsOf, he, hod, hf, hne, hnm]

/-- **C02_off.** When on-demand TLS is not enabled, a handshake never causes any issuance. -/
theorem C02_off (c : Cfg) (hod : c.onDemand = false) (idnaOK : Bool) (name : List Char)
    (allowlist : List (List Char)) (o : Nat → Bool) (n : Nat) :
    outNever isIssue (run (reify (getCert c (factsOf idnaOK name allowlist))) o n) = true := by
  refine outNever_mono (fun e he => ?_) (getCert_policy c _ o n).2
  -- with `od = false` the row of `issue` reads `true`
  simp [excluded, he, hod]

/-- **C02_splice.** A `reenter` event resets the gating flag, so a trace in which it is
replaced by the (gated) trace of the re-entry it stands for is gated again: the statement
of `C02_gated` carries over to the fully expanded trace of a handshake. -/
theorem C02_splice (t1 t2 seg : Trace Eff) (r g : Bool)
    (h : traceGated G (t1 ++ (Eff.reenter, r) :: t2) g = true) (hs : traceGated G seg false = true) :
    traceGated G (t1 ++ seg ++ t2) g = true :=
  traceGated_splice G t1 t2 seg (Eff.reenter, r) g rfl h hs

/-- what the property calls a malformed subject -/
def Malformed (s : List Char) : Prop :=
  (∀ c ∈ s, isSpace c = true) ∨                      -- empty after trimming white space
  s.head? = some '.' ∨ s.getLast? = some '.' ∨        -- leading / trailing dot
  ('*' ∈ s ∧ ¬ (s = ['*'] ∨ ∃ t, s = '*' :: '.' :: t)) ∨  -- `*` other than as the whole left-most label
  (∃ c ∈ s, c ∈ forbidden)                            -- a forbidden character

theorem startsWith_dot (s : List Char) : startsWith ['.'] s = true ↔ s.head? = some '.' := by
  cases s with
  | nil => simp [startsWith, List.isPrefixOf]
  | cons a t =>
    simp only [startsWith, List.isPrefixOf, Bool.and_true, beq_iff_eq, List.head?_cons, Option.some.injEq]
    exact eq_comm

theorem startsWith_stardot (s : List Char) : startsWith ['*', '.'] s = true ↔ ∃ t, s = '*' :: '.' :: t :=
  -- `p <+: s` is `∃ t, p ++ t = s`
  List.isPrefixOf_iff_prefix.trans (exists_congr fun _ => eq_comm)

/-- **C02_qualifies.** The model of `SubjectQualifiesForCert` rejects exactly the malformed
subjects. -/
theorem C02_qualifies (s : List Char) : qualifies s = true ↔ ¬ Malformed s := by
  -- the wildcard clause is the one that the two sides spell differently
  have star : (!s.contains '*' || startsWith ['*', '.'] s || decide (s = ['*'])) = true ↔
      ¬ ('*' ∈ s ∧ ¬ (s = ['*'] ∨ ∃ t, s = '*' :: '.' :: t)) := by
    simp only [← startsWith_stardot, Bool.or_eq_true, Bool.not_eq_true', List.contains_eq_mem,
      decide_eq_false_iff_not, decide_eq_true_eq, not_and, Classical.not_not, or_assoc]
    rw [Decidable.imp_iff_not_or, or_comm (a := s = ['*'])]
  -- both sides are the conjunction of the same five conditions
  simp only [qualifies, Malformed, endsWithDot, Bool.and_eq_true, star, not_or, and_assoc, ← startsWith_dot]
  simp only [Bool.not_eq_true', List.all_eq_false, Bool.not_eq_true, decide_eq_false_iff_not, not_exists,
    not_and, Classical.not_forall, List.any_eq_false, List.contains_eq_mem, decide_eq_true_eq, exists_prop]

/-- responses from a list, `false` beyond its end -/
def orc (l : List Bool) : Nat → Bool := fun i => l.getD i false

def cfgFunc : Cfg := ⟨true, true, false, false, false⟩

/-- cache miss, nobody loading, decision function permits, nothing in storage, nobody
obtaining, storage check, lock, re-check, issuer ok, no previous bundle, saved, bundle loaded, not revoked, not
due: the trace contains `gate ↦ permit` followed by an `issue` and two `load`s, and the
handshake answers with the new certificate -/
example :
    let r := run (reify (getCert cfgFunc ⟨true, true, true⟩))
      (orc [false, false, true, true, false, true, false, true, false, true, false, true, false, true, false, true, true, true, true, false, false]) 0
    r.main.any (fun x => isIssue x.1) = true ∧ r.main.contains (Eff.gate, true) = true ∧
      r.res = Code.enc Res.new := by decide +kernel

/-- cached managed certificate, due, still valid, nobody renewing: the handshake answers with
the current certificate at once and a goroutine asks the policy and renews -/
example :
    let r := run (reify (getCert cfgFunc ⟨true, true, true⟩))
      (orc [true, true, false, true, true, true, false, true, true, true, true, true, true, true, true, true]) 0
    r.res = Code.enc Res.cur ∧ r.kids.any (fun t => t.any (fun x => isIssue x.1)) = true ∧
      r.main.all (fun x => !guardedEff x.1) = true := by decide +kernel

/-- on-demand off, cache almost full: the bundle is loaded from storage (loads happen), but
nothing is issued -/
example :
    let r := run (reify (getCert ⟨false, false, false, true, false⟩ ⟨true, true, true⟩))
      (orc [false, false, true, true, true, false, false]) 0
    r.main.any (fun x => isLoad x.1) = true ∧ outNever isIssue r = true := by decide +kernel

example : qualifies "example.com".toList = true := by decide +kernel
example : qualifies "*.example.com".toList = true := by decide +kernel
example : qualifies "*".toList = true := by decide +kernel
example : qualifies ".example.com".toList = false := by decide +kernel
example : qualifies "example.com.".toList = false := by decide +kernel
example : qualifies "a*.example.com".toList = false := by decide +kernel
example : qualifies "ex ample.com".toList = false := by decide +kernel
example : qualifies " \t".toList = false := by decide +kernel
example : qualifies "a;b".toList = false := by decide +kernel
example : Malformed "sub.*.example.com".toList := by
  refine Or.inr (Or.inr (Or.inr (Or.inl ⟨by decide +kernel, ?_⟩)))
  rintro (h | ⟨t, h⟩) <;> simp at h

end CM.Props.C02
