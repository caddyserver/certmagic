import CM.Proofs.SingleFlight
/-!
# C13 — concurrent handshakes share one load/obtain/renew and are never left hanging

Theorems about every reachable state of the single-flight LTS (`CM.SingleFlight`, repaired
code): any number of threads, any schedule, any behaviour of cache / storage / policy /
issuer (their answers are event parameters), every worker outcome.
-/
namespace CM.Props.C13
open CM.SingleFlight

/-- **C13_one_worker.** At most one thread holds the registration of each map, and the
threads inside the issuer (obtaining / renewing, foreground or goroutine) resp. inside the
storage load are among them: two workers of the same kind are the same thread. -/
theorem C13_one_worker {s : State} (hr : Reachable s) (t u : Nat) :
    (isWorkerPC (s.pc t) → isWorkerPC (s.pc u) → t = u) ∧
    (s.pc t = .loading → s.pc u = .loading → t = u) ∧
    (∀ c d, s.ownO t = some c → s.ownO u = some d → t = u) ∧
    (∀ c d, s.ownL t = some c → s.ownL u = some d → t = u) := by
  have hi := inv_reachable hr
  obtain ⟨hL, hO, _⟩ := inv_iff.1 hi
  refine ⟨fun h1 h2 => ?_, fun h1 h2 => ?_, fun c d h1 h2 => (hO.unique h1 h2).1, fun c d h1 h2 => (hL.unique h1 h2).1⟩
  · obtain ⟨c, hc⟩ := hi.p2 t h1
    obtain ⟨d, hd⟩ := hi.p2 u h2
    exact (hO.unique hc hd).1
  · obtain ⟨c, hc⟩ := hi.p4 t (Or.inr h1)
    obtain ⟨d, hd⟩ := hi.p4 u (Or.inr h2)
    exact (hL.unique hc hd).1

/-- a thread is live: started and not finished -/
def Live (p : PC) : Prop := ¬ isEndPC p

/-- **C13_no_lost_wakeup.** A thread waiting on a channel that is still open: the map still
holds exactly that channel, and a live thread other than the waiter owns it (for the obtain
map: a thread that is inside the worker code). Closing and deleting are one atomic step
(`finish`, `ret`), so there is no state in which an open channel has left its map. -/
theorem C13_no_lost_wakeup {s : State} (hr : Reachable s) (t c : Nat) :
    (s.pc t = .waitLoad c → s.closedL c = false →
      ∃ u, s.loadCh = some (c, u) ∧ u ≠ t ∧ s.ownL u = some c ∧ Live (s.pc u)) ∧
    (s.pc t = .waitObtain c → s.closedO c = false →
      ∃ u, s.obtCh = some (c, u) ∧ u ≠ t ∧ s.ownO u = some c ∧ isWorkerPC (s.pc u)) := by
  have hi := inv_reachable hr
  refine ⟨fun ht hc => ?_, fun ht hc => ?_⟩
  · obtain ⟨-, hn, hw⟩ := hi.w1 t c ht
    obtain ⟨u, hu⟩ := hw hc
    have ho := (hi.a1 c u hu).1
    refine ⟨u, hu, ?_, ho, fun he => ?_⟩
    · rintro rfl; rw [hn] at ho; cases ho
    · rw [(hi.p1 u he).1] at ho; cases ho
  · obtain ⟨u, hu⟩ := (hi.w2 t c ht).2 hc
    have ho := (hi.a3 c u hu).1
    have hw := hi.p3 u c ho
    exact ⟨u, hu, fun e => (worker_facts _ hw).2.1 c (e ▸ ht), ho, hw⟩

/-- a channel registered in a map is open: there is no "closed but still registered" and,
with the previous theorem, no "open but no longer registered while somebody waits" -/
theorem C13_registered_open {s : State} (hr : Reachable s) (c u : Nat) :
    (s.loadCh = some (c, u) → s.closedL c = false) ∧ (s.obtCh = some (c, u) → s.closedO c = false) :=
  ⟨fun h => ((inv_reachable hr).a1 c u h).2.1, fun h => ((inv_reachable hr).a3 c u h).2.1⟩

/-- a channel is closed only by the thread that registered it, in the step that also deletes
it from the map -/
theorem C13_closed_only_by_owner {s s' : State} (e : Ev) (h : step true s e = some s') (c : Nat) :
    (s'.closedO c = true → s.closedO c = true ∨
      ∃ t ok, e = .finish t ok ∧ s.ownO t = some c ∧ s'.obtCh = none) ∧
    (s'.closedL c = true → s.closedL c = true ∨ ∃ t, e = .ret t ∧ s.ownL t = some c ∧ s'.loadCh = none) := by
  generalize ha : e.actor = t
  generalize hp : s.pc t = p
  cases Effect.of_step h ha hp with
  | @finishObtain _ ok ho | @finishRenew _ _ ok ho =>
    refine ⟨fun hc => ?_, Or.inl⟩
    rcases Upd.upd_eq hc with ⟨rfl, _⟩ | ⟨_, hc⟩
    · exact Or.inr ⟨t, ok, rfl, ho, rfl⟩
    · exact Or.inl hc
  | retLoad ho =>
    refine ⟨Or.inl, fun hc => ?_⟩
    rcases Upd.upd_eq hc with ⟨rfl, _⟩ | ⟨_, hc⟩
    · exact Or.inr ⟨t, rfl, ho, rfl⟩
    · exact Or.inl hc
  | _ => exact ⟨Or.inl, Or.inl⟩

/-- **C13_released.** Whatever the worker's outcome (`ok` or not: success, issuer error, policy
denial, cancellation, time-out), its exit step is enabled, closes its channel and empties the
map in one step, and in the resulting state every thread that waits on that channel can take
its `wake` step at once. -/
theorem C13_released {s : State} (hr : Reachable s) (u c : Nat) (ho : s.ownO u = some c) (ok : Bool) :
    ∃ s', step true s (.finish u ok) = some s' ∧ s'.closedO c = true ∧ s'.obtCh = none ∧
      ∀ t, t ≠ u → s.pc t = .waitObtain c → ∃ s'', step true s' (.wake t) = some s'' ∧ s''.pc t = .lookup false := by
  have hfin : Effect s u (s.pc u) (.finish u ok) ((s.relO u c).move u (.unwind (if ok then .other else .err))) := by
    rcases (inv_reachable hr).p3 u c ho with h | ⟨b, h⟩ <;> rw [h]
    · exact .finishObtain ho
    · exact .finishRenew ho
  refine ⟨_, hfin.step_eq rfl, upd_same, rfl, fun t htu ht => ?_⟩
  exact ⟨_, (Effect.move (.wakeObtain upd_same)).step_eq ((upd_other htu).trans ht), upd_same⟩

/-- … and the same for the load map: leaving getCertDuringHandshake closes and deletes the
registered load channel in one step, on every path (result `r` arbitrary), and releases every
waiter -/
theorem C13_released_load {s : State} (u c : Nat) (r : Res) (ho : s.ownL u = some c)
    (hpc : s.pc u = .unwind r) :
    ∃ s', step true s (.ret u) = some s' ∧ s'.closedL c = true ∧ s'.loadCh = none ∧
      ∀ t, t ≠ u → s.pc t = .waitLoad c → ∃ s'', step true s' (.wake t) = some s'' ∧ s''.pc t = .lookup false := by
  refine ⟨_, (Effect.retLoad ho).step_eq hpc, upd_same, rfl, fun t htu ht => ?_⟩
  exact ⟨_, (Effect.move (.wakeLoad upd_same)).step_eq ((upd_other htu).trans ht), upd_same⟩

/-- a thread that holds a registration is live, and a thread that holds the obtain channel is
inside the worker code, whose exit (previous theorems) is always enabled: a registration is
never orphaned -/
theorem C13_owner_live {s : State} (hr : Reachable s) (u c : Nat) :
    (s.ownL u = some c → Live (s.pc u)) ∧ (s.ownO u = some c → isWorkerPC (s.pc u)) := by
  have hi := inv_reachable hr
  refine ⟨?_, hi.p3 u c⟩
  intro h hend
  rw [(hi.p1 u hend).1] at h; cases h

/-- **C13_bounded.** Every waiting state has its time-out arm: the `timeout` step is enabled
in every state in which a thread waits, and takes it out of the wait with an error.
(Structural counterpart: every waiting `select` in the source has a timer arm — tie; the
numeric bounds `waiterTimeout` etc. are regenerated constants.) -/
theorem C13_bounded (s : State) (t c : Nat) (h : s.pc t = .waitLoad c ∨ s.pc t = .waitObtain c) :
    step true s (.timeout t) = some { s with pc := upd s.pc t (.unwind .err) } := by
  rcases h with h | h
  · exact (Effect.move .timeoutLoad).step_eq h
  · exact (Effect.move .timeoutObtain).step_eq h

/-- nobody is stuck: every live thread has an enabled step (a spare idle index is needed
only where a goroutine is started) -/
theorem C13_progress {s : State} (hr : Reachable s) (t : Nat) (hl : Live (s.pc t))
    (u : Nat) (hu : u ≠ t ∧ s.pc u = .idle) :
    ∃ e, e.actor = t ∧ (step true s e).isSome = true := by
  obtain ⟨e, s', hs⟩ := Effect.exists_of_live (inv_reachable hr) rfl hl hu.1 hu.2
  exact ⟨e, hs.actor, by rw [hs.step_eq rfl]; rfl⟩

/-- the decision of renewDynamicCertificate as the LTS takes it -/
theorem C13_decision (s s' : State) (t u : Nat) (tl rv : Bool) (hpc : s.pc t = .renewSF tl rv)
    (h : step true s (.enterRenew t u) = some s') :
    match decision tl rv s.obtCh.isSome with
    | .serveCurrent => s'.pc t = .unwind .cur ∧ s'.obtCh = s.obtCh
    | .waitThenReenter => ∃ c w, s.obtCh = some (c, w) ∧ s'.pc t = .waitObtain c
    | .blockAndRenew => s'.pc t = .renewing false ∧ s'.obtCh = some (s.nextO, t)
    | .serveAndRenewInBackground => s'.pc t = .unwind .cur ∧ s'.pc u = .renewing true ∧ s'.obtCh = some (s.nextO, u) := by
  cases Effect.of_step h rfl hpc with
  | move hm =>
    cases hm with
    | renewBusy hch =>
      rw [hch]
      cases tl
      · exact ⟨_, _, rfl, upd_same⟩
      · cases rv
        · exact ⟨upd_same, rfl⟩
        · exact ⟨_, _, rfl, upd_same⟩
  | renewFg hch => rw [hch]; exact ⟨upd_same, rfl⟩
  | renewBg hch hu => rw [hch]; exact ⟨(upd_other hu.symm).trans upd_same, upd_same, rfl⟩

/-- **C13_serve_while_renewing.** A handshake that finds its certificate due but still valid
(`timeLeft > 0`) and not revoked is answered with the current certificate by its very next
step — whether a renewal is already in flight (nothing is registered, nothing waited for) or
not (the renewal goes to a goroutine) — and never enters a waiting state. -/
theorem C13_serve_while_renewing (s s' : State) (t : Nat) (e : Ev) (hpc : s.pc t = .renewSF true false)
    (ha : e.actor = t) (h : step true s e = some s') :
    s'.pc t = .unwind .cur ∧ (∀ c, s'.pc t ≠ .waitObtain c ∧ s'.pc t ≠ .waitLoad c) := by
  have key : s'.pc t = .unwind .cur := by
    cases Effect.of_step h ha hpc with
    | move hm => cases hm; exact upd_same
    | renewBg _ hu => exact (upd_other hu.symm).trans upd_same
  rw [key]
  exact ⟨rfl, fun c => ⟨nofun, nofun⟩⟩

/-- … and its result is the current certificate -/
theorem C13_serve_result (s s' : State) (t : Nat) (e : Ev) (hpc : s.pc t = .unwind .cur)
    (ha : e.actor = t) (h : step true s e = some s') : s'.pc t = .done .cur := by
  cases Effect.of_step h ha hpc with
  | move hm => cases hm; exact upd_same
  | retLoad _ => exact upd_same

/-- **C13_no_expired_while_renewable.** A handshake whose certificate has expired
(`timeLeft ≤ 0`) is not answered from the renew site: its next step either makes it wait on
the channel of the renewal in flight, or makes it the (foreground) renewer itself. -/
theorem C13_no_expired_while_renewable (s s' : State) (t : Nat) (e : Ev) (rv : Bool)
    (hpc : s.pc t = .renewSF false rv) (ha : e.actor = t) (h : step true s e = some s') :
    (∃ c w, s.obtCh = some (c, w) ∧ s'.pc t = .waitObtain c) ∨
    (s.obtCh = none ∧ s'.pc t = .renewing false) := by
  cases Effect.of_step h ha hpc with
  | move hm =>
    cases hm with
    | renewBusy hch => exact Or.inl ⟨_, _, hch, upd_same⟩
  | renewFg hch => exact Or.inr ⟨hch, upd_same⟩

/-- … and a waiting thread leaves its wait only because the channel has been closed (the
worker finished, `C13_closed_only_by_owner`) or because its deadline passed -/
theorem C13_wait_ends (s s' : State) (t c : Nat) (e : Ev) (hpc : s.pc t = .waitObtain c)
    (ha : e.actor = t) (h : step true s e = some s') :
    (e = .wake t ∧ s.closedO c = true ∧ s'.pc t = .lookup false) ∨ (e = .timeout t ∧ s'.pc t = .unwind .err) := by
  cases Effect.of_step h ha hpc with
  | move hm =>
    cases hm with
    | wakeObtain hc => exact Or.inl ⟨rfl, hc, upd_same⟩
    | timeoutObtain => exact Or.inr ⟨rfl, upd_same⟩

/-- the defective history (unrepaired `enterLoad`): thread 1 renews in the foreground (cache
hit, expired); thread 0 misses the cache, becomes the LOAD worker, loads the expired bundle,
finds the renewal in flight and waits for it; the renewal is denied by the policy (the
certificate leaves the cache); thread 0 re-enters, misses the cache, finds a load channel
registered — its own — and waits on it. -/
def d9Script : List Ev :=
  [.begin 1, .look 1 true true false false, .maintGo 1 false false, .enterRenew 1 9,
   .begin 0, .look 0 false false false false, .enterLoad 0, .gated 0 true .err,
   .loaded 0 true true false false, .maintGo 0 false false, .enterRenew 0 9,
   .finish 1 false, .wake 0, .look 0 false false false false, .enterLoad 0]

/-- unrepaired: thread 0 ends up waiting on its OWN open load channel — nobody else can ever
close it, only the 2-minute timer ends the wait (D9) -/
theorem C13_D9_unrepaired :
    ∃ s, run false init d9Script = some s ∧ s.pc 0 = .waitLoad 0 ∧ s.ownL 0 = some 0 ∧
      s.loadCh = some (0, 0) ∧ s.closedL 0 = false := by
  decide +kernel

/-- repaired: the same script leaves thread 0 at the policy gate of the re-entry, not waiting -/
theorem C13_D9_repaired :
    ∃ s, run true init d9Script = some s ∧ s.pc 0 = .gate false ∧ Reachable s :=
  ⟨_, rfl, by decide +kernel, run_reachable _ _ d9Script Reachable.init rfl⟩

/-! ## non-vacuity: reachable states satisfying the hypotheses above -/

/-- two threads: 0 obtains (worker inside the issuer), 1 waits on 0's load channel -/
def obtainScript : List Ev :=
  [.begin 0, .look 0 false false false false, .enterLoad 0, .gated 0 true .err, .loaded 0 false false false false,
   .enterObtain 0, .begin 1, .look 1 false false false false, .enterLoad 1]

example : ∃ s, run true init obtainScript = some s ∧ s.pc 0 = .obtaining ∧ s.pc 1 = .waitLoad 0 ∧
    s.closedL 0 = false ∧ s.ownO 0 = some 0 := by decide +kernel

/-- a renewal in flight (thread 1, foreground, expired certificate) and a second thread with an
expired certificate at the renew site (hypothesis of C13_no_expired_while_renewable), then
waiting on the obtain channel (hypothesis of C13_no_lost_wakeup / C13_wait_ends) -/
def renewScript : List Ev :=
  [.begin 1, .look 1 true true false false, .maintGo 1 false false, .enterRenew 1 9,
   .begin 2, .look 2 true true false false, .maintGo 2 false false]

example : ∃ s, run true init renewScript = some s ∧ s.pc 1 = .renewing false ∧ s.pc 2 = .renewSF false false ∧
    s.obtCh = some (0, 1) := by decide +kernel

example : ∃ s, run true init (renewScript ++ [.enterRenew 2 9]) = some s ∧ s.pc 2 = .waitObtain 0 ∧
    s.closedO 0 = false := by decide +kernel

/-- a due but valid certificate with a renewal (goroutine 9) in flight: the hypothesis of
C13_serve_while_renewing, in both variants (in flight / not yet) -/
def serveScript : List Ev :=
  [.begin 1, .look 1 true true true false, .maintGo 1 false false, .enterRenew 1 9,
   .begin 2, .look 2 true true true false, .maintGo 2 false false]

example : ∃ s, run true init serveScript = some s ∧ s.pc 2 = .renewSF true false ∧ s.pc 9 = .renewing true ∧
    s.pc 1 = .unwind .cur ∧ s.obtCh = some (0, 9) := by decide +kernel

example : decision true false true = .serveCurrent ∧ decision false false true = .waitThenReenter ∧
    decision true true true = .waitThenReenter ∧ decision false false false = .blockAndRenew ∧
    decision true false false = .serveAndRenewInBackground := by decide +kernel

end CM.Props.C13
