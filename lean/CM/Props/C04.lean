import CM.Proofs.Renew
/-!
# C04 — renewal is decided neither too late nor spuriously

Theorems over every `(now, notBefore, notAfter, ratio, interval, ARI state)`.
-/
namespace CM.Renew

/-- the statement's "must renew" conditions, as a proposition -/
def Must (i : In) : Prop :=
  let exp := expiresAt i.na
  inWindow i.now i.nb exp i.rnum i.rden = true ∨           -- configured final fraction
  inWindow i.now i.nb exp 1 emergencyDen = true ∨            -- emergency fraction
  exp - i.now < i.interval * intervalFactor ∨              -- emergency margin before expiry
  (i.disableARI = false ∧ ∃ t, effSelected i = .some t ∧
     (i.now > t - i.interval ∨                             -- ARI-selected time less one interval
      inWindow i.now i.nb exp 1 ariEmergencyDen = true))   -- ARI cannot postpone past the final 1/20

/-- no miss and nothing spurious: whenever the decision does not panic, it says "renew"
exactly when one of the statement's conditions holds -/
theorem C04_exact (i : In) (hp : needsRenewal i ≠ .panics) : needsRenewal i = .yes ↔ Must i := by
  revert hp
  unfold Must
  fun_cases needsRenewal i
  next hd => intro _; simp [baseDue_iff, hd]
  next hd hs => intro hp; exact absurd rfl hp
  next hd hs => intro _; simp [baseDue_iff, hd, hs]
  next hd t hs =>
    intro _
    simp only [hd, hs, ofBool_yes, Bool.or_eq_true, baseDue_iff, decide_eq_true_eq, true_and, Sel.some.injEq,
      exists_eq_left']
    rw [or_comm, or_assoc, or_assoc]

/-- no miss (one direction of `C04_exact`, stated on its own) -/
theorem C04_no_miss (i : In) (hp : needsRenewal i ≠ .panics) (h : Must i) : needsRenewal i = .yes :=
  (C04_exact i hp).mpr h

/-- no spurious renewal -/
theorem C04_no_spurious (i : In) (h : ¬ Must i) : needsRenewal i ≠ .yes := by
  intro hy
  exact h ((C04_exact i (by rw [hy]; decide)).mp hy)

/-- a certificate that has expired is always due (for a positive interval) -/
theorem C04_expired_due (i : In) (hp : needsRenewal i ≠ .panics) (hi : 0 < i.interval)
    (hx : i.now > expiresAt i.na) : needsRenewal i = .yes := by
  apply C04_no_miss i hp
  right; right; left
  simp only [intervalFactor]; omega

/-- renewal information can never postpone renewal: whatever the ARI state, if the
decision without ARI says "renew" then so does the decision with it -/
theorem C04_ari_cannot_postpone (i : In) (hp : needsRenewal i ≠ .panics)
    (h : needsRenewal { i with disableARI := true } = .yes) : needsRenewal i = .yes := by
  have hb : baseDue i = true := by
    rw [needsRenewal_disabled rfl, ofBool_yes] at h
    exact h
  apply C04_no_miss i hp
  exact ((baseDue_iff i).mp hb).imp_right (Or.imp_right Or.inl)

/-- … and once the final 1/20 of the lifetime has begun, a selected time cannot hold it back -/
theorem C04_final_twentieth (i : In) (t : Int) (hd : i.disableARI = false)
    (hs : effSelected i = .some t)
    (h : inWindow i.now i.nb (expiresAt i.na) 1 ariEmergencyDen = true) : needsRenewal i = .yes := by
  rw [needsRenewal_selected hd hs, ofBool_yes, h, Bool.or_true, Bool.true_or]

/-- renewal information whose (selected or improvised) time lies more than one interval in
the future never triggers a renewal by itself: outside the final 1/20 the verdict is the
one without ARI. (This is the statement that was false before the `fix:` commit.) -/
theorem C04_future_window (i : In) (t : Int) (hd : i.disableARI = false)
    (hs : effSelected i = .some t) (hfut : i.now ≤ t - i.interval)
    (h20 : inWindow i.now i.nb (expiresAt i.na) 1 ariEmergencyDen = false) :
    needsRenewal i = needsRenewal { i with disableARI := true } := by
  have : decide (i.now > t - i.interval) = false := decide_eq_false (Int.not_lt.mpr hfut)
  rw [needsRenewal_selected hd hs, needsRenewal_disabled rfl, this, h20]
  rfl

/-- hence: a suggested window that starts later than `now + interval` never triggers -/
theorem C04_future_window' (i : In) (ws we : Int) (hd : i.disableARI = false)
    (hsel : i.selected = none) (hw : i.window = some (ws, we))
    (hr0 : 0 ≤ i.rnd) (hr1 : i.rnd < we / sec - (ws / sec + 1))
    (hfut : i.now + i.interval ≤ ws)
    (h20 : inWindow i.now i.nb (expiresAt i.na) 1 ariEmergencyDen = false) :
    needsRenewal i = needsRenewal { i with disableARI := true } := by
  have hs := effSelected_window hsel hw
  rw [if_neg (Int.not_le.mpr (Int.lt_of_le_of_lt hr0 hr1))] at hs
  exact C04_future_window i _ hd hs
    (Int.le_sub_right_of_add_le (Int.le_of_lt (Int.lt_of_le_of_lt hfut (lt_improvised ws hr0)))) h20

/-- the decision panics exactly when ARI is on, no time is stored, and the suggested window
is too short for `rand.Int63n` (end.sec − start.sec − 1 ≤ 0) -/
theorem C04_panics_iff (i : In) : needsRenewal i = .panics ↔
    (i.disableARI = false ∧ i.selected = none ∧
     ∃ ws we, i.window = some (ws, we) ∧ we / sec - (ws / sec + 1) ≤ 0) := by
  rw [needsRenewal_panics]
  refine and_congr_right fun _ => ⟨?_, ?_⟩
  · fun_cases effSelected i
    all_goals intro h; cases h
    next hsel ws we hw _ _ hle => exact ⟨hsel, ws, we, hw, hle⟩
  · rintro ⟨hsel, ws, we, hw, hle⟩
    rw [effSelected_window hsel hw, if_pos hle]

/-- the improvised time is the input `rnd`, the same at both instants: no hypothesis on the ARI state -/
theorem needsRenewal_mono (i : In) (now' : Int) (hle : i.now ≤ now') (h : needsRenewal i = .yes) :
    needsRenewal { i with now := now' } = .yes := by
  have hp : needsRenewal i ≠ .panics := by rw [h]; decide
  -- whether the decision panics does not depend on `now`
  have hp' : needsRenewal { i with now := now' } ≠ .panics :=
    fun hpn => hp ((C04_panics_iff i).mpr ((C04_panics_iff { i with now := now' }).mp hpn))
  apply (C04_exact _ hp').mpr
  -- each of the conditions, once true, stays true
  rcases (C04_exact i hp).mp h with h | h | h | ⟨hd, t, ht, h⟩
  · exact Or.inl (inWindow_mono hle h)
  · exact Or.inr (Or.inl (inWindow_mono hle h))
  · exact Or.inr (Or.inr (Or.inl (Int.lt_of_le_of_lt (Int.sub_le_sub_left hle _) h)))
  · exact Or.inr (Or.inr (Or.inr ⟨hd, t, ht, h.imp (fun h => Int.lt_of_lt_of_le h hle) (inWindow_mono hle)⟩))

/-- with a stored selected time, or no renewal information, or ARI disabled, the verdict
never goes back from "renew" to "wait" as time advances. (The model does not need `hfix`: its
improvised time is the input `rnd`. certificates.go draws it anew at every call, so only under
`hfix` is this a claim about the code.) -/
theorem C04_monotone (i : In) (now' : Int) (hle : i.now ≤ now')
    (hfix : i.disableARI = true ∨ i.selected.isSome ∨ i.window = none)
    (h : needsRenewal i = .yes) : needsRenewal { i with now := now' } = .yes :=
  needsRenewal_mono i now' hle h

/-- the threshold of a ratio check is exactly `expiresAt − ⌊lifetime·ratio⌋`, compared strictly -/
theorem C04_threshold (now nb exp : Int) (num den : Nat) (hn : num ≠ 0) :
    inWindow now nb exp num den = true ↔ now > exp - scale (exp - nb) num den := by
  simp [inWindow, windowStart, hn]

/-! ### non-vacuity -/

/-- 90-day certificate at day 10, ARI window on days 60–62, no selected time: not due
(this input was answered "renew" before the fix) -/
def ex1 : In := { now := 10 * 86400 * sec, nb := 0, na := 90 * 86400 * sec, rnum := 0, rden := 1
                  interval := 600 * sec, disableARI := false
                  window := some (60 * 86400 * sec, 62 * 86400 * sec), selected := none, rnd := 5 }

example : needsRenewal ex1 = .no := by decide +kernel
example : needsRenewal { ex1 with now := 61 * 86400 * sec } = .yes := by decide +kernel
example : needsRenewal { ex1 with window := some (5 * sec, 5 * sec + 1) } = .panics := by decide +kernel
example : Must { ex1 with now := 61 * 86400 * sec } := by
  right; right; right; exact ⟨rfl, _, rfl, by decide +kernel⟩

end CM.Renew
