import CM.Proofs.Bundle
/-!
# C07 — no crash or storage fault during obtain/renew leaves storage unrecoverable

For every number `j` of stores that reached storage before the process died, and for every
index at which a store failed; abstract key identifiers (so: every key, every serial).
The full statement is FALSE for one crash window of the unchanged code (D7a, a recorded
known finding): it is kept as `C07_recovers_full`, refuted by `C07_recovers_refuted`, and
proved for everything else (`…_obtain`, `…_renew_reuse`, `…_renew_noreuse_partial`,
`C07_failAt_restores`).
-/
namespace CM.Bundle

theorem slots_eta (s : Slots) :
    ({ key := s.key, crt := s.crt, mta := s.mta, compromised := s.compromised } : Slots) = s := by
  rfl

/-- **Any failing store is rolled back completely**: whichever of the three stores of the
transaction fails, the bundle is afterwards exactly what it was before (after the `fix:`
commit; `storeTx` used to delete, destroying the previous key and certificate). -/
theorem C07_failAt_restores (i : Nat) (k : KeyId) (c : Crt) (s : Slots) :
    storeTxFailAt i (saveWrites k c) s = s := by
  obtain _ | _ | _ | n := i
  · rfl
  · rfl
  · rfl
  · rw [storeTxFailAt, applyFirst, List.take_of_length_le (Nat.le_add_left 3 n)]
    rfl

/-- hence a certificate that was loadable before a failed renewal (or obtain) remains so -/
theorem C07_old_survives (i : Nat) (k : KeyId) (c : Crt) (s : Slots) (h : usable s = true) :
    usable (storeTxFailAt i (saveWrites k c) s) = true := by
  rw [C07_failAt_restores]; exact h

/-- **Obtain, death after any store**: starting from storage in which the metadata or the
certificate is missing (empty, or whatever an earlier interrupted obtain left: the
metadata is written last), whatever number `j` of the three stores reached storage, a fresh
instance managing the name ends with a usable bundle — with or without key reuse, whatever
key the recovering instance generates. -/
theorem C07_recovers_obtain (e e' : Env) (s : Slots) (j : Nat) (c : Crt)
    (hinit : s.crt = none ∨ s.mta = none) (hc : c.pub = obtainKey e s) :
    usable (recover e' (applyFirst j (saveWrites (obtainKey e s) c) s)) = true :=
  -- the first store leaves the certificate and metadata slots as they were, one of them empty
  recovers_of_crash e' hc (fun _ => load_ne_mismatch_of_missing hinit)
    (fun _ => load_ne_mismatch_of_missing (t := { s with key := some (obtainKey e s) }) hinit)

/-- **Renew with key reuse, death after any store**: the bundle stays usable throughout
(the key file is rewritten with the same key). -/
theorem C07_recovers_renew_reuse (e e' : Env) (s : Slots) (j : Nat) (k0 : KeyId) (c0 c1 : Crt)
    (hl : load s = .ok k0 c0) (hr : e.reuse = true) (hc : c1.pub = renewKey e k0) :
    usable (recover e' (applyFirst j (saveWrites (renewKey e k0) c1) s)) = true := by
  have hk : renewKey e k0 = k0 := by simp [renewKey, hr]
  have hs : { s with key := some k0 } = s := by rw [← (fields_of_load_ok hl).1]
  rw [hk] at hc ⊢
  refine recovers_of_crash e' hc ?_ ?_
  · intro _; rw [hl]; nofun
  · intro _; rw [hs, hl]; nofun

/-- **Renew without key reuse**: every crash point except "after the key, before the
certificate" leaves a usable bundle. -/
theorem C07_recovers_renew_noreuse_partial (e e' : Env) (s : Slots) (j : Nat) (k0 : KeyId) (c0 c1 : Crt)
    (hl : load s = .ok k0 c0) (hc : c1.pub = renewKey e k0) (hj : j ≠ 1) :
    usable (recover e' (applyFirst j (saveWrites (renewKey e k0) c1) s)) = true :=
  recovers_of_crash e' hc (fun _ => by rw [hl]; nofun) (fun h => absurd h hj)

/-- the full statement (kept visible) -/
def C07_recovers_full : Prop :=
  ∀ (e e' : Env) (s : Slots) (j : Nat) (k0 : KeyId) (c0 c1 : Crt),
    load s = .ok k0 c0 → c1.pub = renewKey e k0 →
    usable (recover e' (applyFirst j (saveWrites (renewKey e k0) c1) s)) = true

/-- **D7a**: renewal without key reuse, death between the key store and the certificate
store: new key + old certificate + old metadata all exist, the load fails with a mismatch
that is not not-exist, and managing the name never obtains again. For EVERY loadable
bundle and every fresh key different from the stored one. -/
theorem C07_crash_window_unrecoverable (e e' : Env) (s : Slots) (k0 : KeyId) (c0 c1 : Crt)
    (hl : load s = .ok k0 c0) (hr : e.reuse = false) (hf : e.fresh ≠ k0) :
    usable (recover e' (applyFirst 1 (saveWrites (renewKey e k0) c1) s)) = false := by
  obtain ⟨_, hcr, ⟨m, hm⟩, hp⟩ := fields_of_load_ok hl
  have hk : renewKey e k0 = e.fresh := by simp [renewKey, hr]
  have hmis : load (applyFirst 1 (saveWrites (renewKey e k0) c1) s) = .mismatch := by
    rw [hk]
    exact (load_of_fields (s := { s with key := some e.fresh }) rfl hcr hm).trans
      (if_neg (hp ▸ hf))
  exact Bool.eq_false_iff.mpr fun h => usable_recover_iff.mp h hmis

theorem C07_recovers_refuted : ¬ C07_recovers_full := by
  intro h
  have ht := h { reuse := false, fresh := 7, ser := 2, now := 5 } { reuse := false, fresh := 8, ser := 3, now := 6 }
    { key := some 1, crt := some { pub := 1, ser := 1, nb := 0 }, mta := some 1, compromised := none } 1 1
    { pub := 1, ser := 1, nb := 0 } { pub := 7, ser := 2, nb := 5 } (by decide) (by decide)
  -- `j = 1`, no reuse, fresh key 7 ≠ stored key 1: the window of the theorem above
  rw [C07_crash_window_unrecoverable (c0 := { pub := 1, ser := 1, nb := 0 })] at ht
  · cases ht
  all_goals decide

/-! ### non-vacuity -/
example : load { key := some 1, crt := some { pub := 1, ser := 1, nb := 0 }, mta := some 1, compromised := none }
    = .ok 1 { pub := 1, ser := 1, nb := 0 } := by decide
example : usable (recover { reuse := false, fresh := 9, ser := 4, now := 1 }
    (applyFirst 1 (saveWrites 5 { pub := 5, ser := 3, nb := 0 }) Slots.empty)) = true := by decide

end CM.Bundle
