import CM.Proofs.Bundle
/-!
# C06 — a reported success leaves a complete, matching, reloadable bundle

Over abstract key identifiers: every key, every serial, every prior storage content.
-/
namespace CM.Bundle

/-- **Complete, matching, reloadable** (obtain): when `obtainCert` does its work (storage
did not already hold all three keys) and reports success, all three keys exist, loading
yields exactly the key it used and the certificate the issuer returned, and the key is the
leaf's. -/
theorem C06_obtain_complete (e : Env) (s : Slots) (h : hasAll s = false) :
    hasAll (obtain e s) = true ∧
    load (obtain e s) = .ok (obtainKey e s) { pub := obtainKey e s, ser := e.ser, nb := e.now } ∧
    (obtain e s).mta = some e.ser := by
  rw [obtain_eq e s h]
  exact ⟨rfl, load_mk, rfl⟩

/-- … and when storage already holds all three keys, obtain is a no-op -/
theorem C06_obtain_noop (e : Env) (s : Slots) (h : hasAll s = true) : obtain e s = s := by
  rw [obtain, if_pos h]

/-- **Complete, matching, reloadable** (renew) -/
theorem C06_renew_complete (e : Env) (s : Slots) (k0 : KeyId) (c0 : Crt) (h : load s = .ok k0 c0) :
    ∃ s', renew e s = some s' ∧ hasAll s' = true ∧
      load s' = .ok (renewKey e k0) { pub := renewKey e k0, ser := e.ser, nb := e.now } ∧
      s'.mta = some e.ser :=
  ⟨_, renew_eq e s h, rfl, load_mk, rfl⟩

/-- renew reports success only if there was a loadable bundle -/
theorem C06_renew_needs_bundle (e : Env) (s s' : Slots) (h : renew e s = some s') :
    ∃ k c, load s = .ok k c := by
  unfold renew at h
  split at h
  · rename_i k c hl; exact ⟨k, c, hl⟩
  · cases h

/-- **Fresh key**: unless key reuse is configured every issuance uses the generator's key -/
theorem C06_fresh_key (e : Env) (s : Slots) (hr : e.reuse = false) :
    obtainKey e s = e.fresh ∧ ∀ old, renewKey e old = e.fresh := by
  simp [obtainKey, renewKey, hr]

/-- **Reuse keeps the stored key** -/
theorem C06_reuse_keeps (e : Env) (s : Slots) (k : KeyId) (hr : e.reuse = true) (hk : s.key = some k) :
    obtainKey e s = k ∧ renewKey e k = k := by
  simp [obtainKey, renewKey, hr, hk]

/-- **A compromised key is never used for the replacement**: after the certificate was
revoked for key compromise, the key is quarantined and the replacement's key is the
generator's — even with key reuse configured — hence different from the quarantined one
whenever the generator does not repeat it. -/
theorem C06_compromised_never_reused (e : Env) (s : Slots) (k : KeyId) (hk : s.key = some k)
    (hf : e.fresh ≠ k) :
    (replaceCompromised e s).compromised = some k ∧
    load (replaceCompromised e s) = .ok e.fresh { pub := e.fresh, ser := e.ser, nb := e.now } ∧
    (replaceCompromised e s).key ≠ some k := by
  have hq : quarantine s = { s with compromised := some k, key := none } := by
    simp only [quarantine, hk]
  -- the key slot is empty after the quarantine, so reuse finds nothing to reuse
  have hkey : obtainKey e (quarantine s) = e.fresh := by
    rw [hq, obtainKey]
    split <;> rfl
  rw [replaceCompromised, obtain_eq e _ (by simp [hq, hasAll]), hkey, hq]
  exact ⟨rfl, load_mk, fun h => hf (Option.some.inj h)⟩

/-- … with several issuers: after the quarantine no issuer's bundle loads with the compromised
key, so whatever is adopted or loaded as the replacement (`C06_newest_issuer`: one of the
loadable bundles) does not use it -/
theorem C06_compromised_never_loaded (k : KeyId) (l : List Slots) :
    ∀ s ∈ quarantineAll k l, ∀ k' c, load s = .ok k' c → k' ≠ k := by
  intro s hs k' c hl hk
  exact key_ne_of_mem_quarantineAll hs (hk ▸ (fields_of_load_ok hl).1)

/-- **Newest issuer**: with several issuers the bundle loaded is a loadable one with the
latest NotBefore among all loadable ones -/
theorem C06_newest_issuer (l : List Slots) (c : Crt) (h : newest l = some c) :
    (∃ s ∈ l, ∃ k, load s = .ok k c) ∧ ∀ s ∈ l, ∀ k d, load s = .ok k d → d.nb ≤ c.nb := by
  refine ⟨newest_mem h, fun s hs k d hd => ?_⟩
  obtain ⟨c', hc', hle⟩ := le_newest hs hd
  rw [h] at hc'
  cases hc'
  exact hle

/-! ### non-vacuity -/
example : load (obtain { reuse := true, fresh := 4, ser := 2, now := 9 }
    { key := some 3, crt := none, mta := none, compromised := none }) = .ok 3 { pub := 3, ser := 2, nb := 9 } := by decide
example : (replaceCompromised { reuse := true, fresh := 4, ser := 2, now := 9 }
    { key := some 3, crt := some { pub := 3, ser := 1, nb := 1 }, mta := some 1, compromised := none }).key = some 4 := by decide
example : (quarantineAll 3 [ { key := some 3, crt := some { pub := 3, ser := 2, nb := 8 }, mta := some 2, compromised := none },
                             { key := some 3, crt := some { pub := 3, ser := 1, nb := 5 }, mta := some 1, compromised := none } ]).map load
    = [.notexist, .notexist] := by decide
example : newest [ { key := some 1, crt := some { pub := 1, ser := 1, nb := 5 }, mta := some 1, compromised := none },
                   { key := some 2, crt := some { pub := 2, ser := 2, nb := 8 }, mta := some 2, compromised := none } ]
    = some { pub := 2, ser := 2, nb := 8 } := by decide

end CM.Bundle
