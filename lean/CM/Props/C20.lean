import CM.Proofs.Account
import CM.Proofs.AccountW
/-!
# C20 — one ACME account per CA and contact: registered once, persisted, always reused

Theorems about the transition system of `CM/Model/Account.lean`: for EVERY number of
processes (instances × constructions × restarts: processes are indexed by `Nat`), every
schedule, every pattern of storage faults and CA failures — the quantifier is over all
reachable states / all event lists, by inductive invariants (`CM/Proofs/Account.lean`, and
`CM/Proofs/AccountW.lean` for `C20_orders_only_with_persisted`) over the effect of a step
(`CM/Proofs/AccountStep.lean`). The HTTPS rule is over all configured strings, given Go's
`url.Parse` facts; the lemmas about its functions, like those about `stored`, stand below their
definitions in the model file.
-/
namespace CM.Account

/-- In a run without storage faults (and in which the CA forgets nothing), the CA creates at
most one account for the (CA, contact) — whatever the number of concurrent first issuances,
instances and restarts, and however they interleave. -/
theorem C20_register_once {s : St} (h : Reach s) (hf : s.faults = 0) (hg : s.forgets = 0) :
    s.registers ≤ 1 :=
  (quiet_reach h hf hg).once

/-- the same for histories: every run of the model from the empty storage -/
theorem C20_register_once_run {tr : List Ev} {s : St} (h : run init tr = some s)
    (hf : s.faults = 0) (hg : s.forgets = 0) : s.registers ≤ 1 :=
  C20_register_once (run_reach Reach.init h) hf hg

/-- non-vacuity: three processes race for the first registration; exactly one registers,
the second finds the account after the lock, the third loads it without locking -/
def raceTrace : List Ev :=
  [.start 0, .start 1, .loadReg 0 false, .loadReg 1 false, .acq 1 true, .reload 1 false 0,
   .register 1 .ok, .savePre 1 false, .saveReg 1 true, .start 2, .loadReg 2 false, .loadKey 2 false,
   .saveKey 1 true, .rel 1 true, .acq 0 true, .reload 0 false 1, .rel 0 true, .acq 2 true,
   .reload 2 false 1, .rel 2 true, .order 0, .order 1, .order 2]

example : (run init raceTrace).map (view 3) =
    some ⟨1, 0, 0, some 0, some 0, none, [.ready 0 0, .ready 0 0, .ready 0 0]⟩ := by decide +kernel

/-- … and the hypothesis is needed: a save that fails after the CA has registered leads to
a second registration later (inherent: the key was never persisted) -/
example : (run init [.start 0, .loadReg 0 false, .acq 0 true, .reload 0 false 0, .register 0 .ok, .savePre 0 false,
    .saveReg 0 false, .rel 0 true, .start 0, .loadReg 0 false, .acq 0 true, .reload 0 false 1, .register 0 .ok]).map
    (fun s => (s.registers, s.faults)) = some (2, 1) := by decide +kernel

/-- After ANY run — any storage faults during the save (failed stores, failed roll-backs,
failed unlocks, lost CA answers), any schedule — what `loadAccount` finds is either nothing
(a missing file makes it report not-exist, so both are treated as absent) or the registration
and the key of ONE account; the only excluded fault is a failed deletion of the key file in
the recreate path (see `C20_persisted_together_full_refuted`). -/
theorem C20_persisted_together {s : St} (h : Reach s) (hd : s.delKeyFaults = 0) :
    stored s = none ∨ ∃ a, s.reg = some a ∧ s.key = some a := by
  cases hs : stored s with
  | none => exact .inl rfl
  | some ab =>
    obtain ⟨hr, hk⟩ := stored_some_iff.mp hs
    rcases nomix_reach h hd _ hk with h' | ⟨p, c, hp⟩
    · exact .inr ⟨_, h', hk⟩
    · -- between its two deletions the recreate path has removed the registration
      have := (inv1_reach h).locAt hp
      have := this.2.2.symm.trans hr; cases this

/-- the statement without the exclusion … -/
def C20_persisted_together_full : Prop :=
  ∀ s, Reach s → stored s = none ∨ ∃ a, s.reg = some a ∧ s.key = some a

/-- … is false of the code: the recreate path deletes the registration, fails to delete
the key; the next save writes a new registration, fails to write the new key and fails to
put things back — the registration of account 1 now sits beside the key of account 0 -/
def mixTrace : List Ev :=
  [.start 0, .loadReg 0 false, .acq 0 true, .reload 0 false 0, .register 0 .ok, .savePre 0 false, .saveReg 0 true,
   .saveKey 0 true, .rel 0 true, .caForget 0, .order 0, .dneAcq 0 true, .dneCheck 0 false, .dneDelReg 0 true,
   .dneDelKey 0 false, .dneRel 0 true, .start 0, .loadReg 0 false, .acq 0 true, .reload 0 false 1, .register 0 .ok,
   .savePre 0 false, .saveReg 0 true, .saveKey 0 false, .rollback 0 false, .rel 0 true]

theorem C20_persisted_together_full_refuted : ¬ C20_persisted_together_full := by
  intro h
  have hv : (run init mixTrace).map (fun s => (s.reg, s.key)) = some (some 1, some 0) := by decide +kernel
  obtain ⟨s, hs, hrk⟩ := Option.map_eq_some_iff.mp hv
  obtain ⟨hreg, hkey⟩ := Prod.mk.inj hrk
  rcases h s (run_reach Reach.init hs) with h0 | ⟨a, ha, hb⟩
  · rw [stored_some_iff.mpr ⟨hreg, hkey⟩] at h0; cases h0
  · rw [hreg] at ha; rw [hkey] at hb; cases ha; cases hb

/-- non-vacuity of `C20_persisted_together`: a save with a failed key store and a failed
roll-back leaves a lone registration, which load treats as absent -/
example : (run init [.start 0, .loadReg 0 false, .acq 0 true, .reload 0 false 0, .register 0 .ok, .savePre 0 false,
    .saveReg 0 true, .saveKey 0 false, .rollback 0 false, .rel 0 false]).map
    (fun s => (s.reg, s.key, stored s, s.delKeyFaults, s.faults)) = some (some 0, none, none, 0, 3) := by decide +kernel

/-- An account that is present in storage (registration and key of account `a`) stops being
the stored account only by the deletion of the recreate path handling the CA's
account-does-not-exist answer FOR THAT VERY ACCOUNT: no save, roll-back, concurrent
construction or recreate on behalf of another account ever replaces or removes it — for
every schedule and every fault pattern. -/
theorem C20_never_replaced {s : St} {e : Ev} {s' : St} {a : Nat} (hr : Reach s) (h : step s e = some s')
    (hreg : s.reg = some a) (hkey : s.key = some a) (hch : ¬ (s'.reg = some a ∧ s'.key = some a)) :
    ∃ p, e = .dneDelReg p true ∧ s.pc p = .dneDelReg a ∧ s.dneAns a = true := by
  have h1 := inv1_reach hr
  have hst : ¬ (s.reg = none ∨ s.key = none) := by rw [hreg, hkey]; nofun
  cases Effect.of_step h with
  | regStored hc =>
    -- a registration is stored only when no complete account is there
    exact absurd (h1.locAt hc).2.1 hst
  | keyStored hc | regRestored hc =>
    -- the key is stored, or the registration rolled back, only while the key of the registration in storage is missing
    have := h1.locAt hc
    have hk := this.2.1.symm.trans hreg; cases hk
    exact absurd hkey this.2.2.2
  | regDeleted he hc =>
    have := h1.locAt hc
    obtain ⟨_, hda, h' | h'⟩ := this
    · have := h'.symm.trans hreg; cases this; exact ⟨_, he, hc, hda⟩
    · exact absurd h' hst
  | keyDeleted hc =>
    have := h1.locAt hc
    have := this.2.2.symm.trans hreg; cases this
  | _ => exact absurd ⟨hreg, hkey⟩ hch

/-- … and the recreate path is entered only through the CA's answer: the flag "the CA has
said that `a` does not exist" is raised only by an order of a client holding `a`, at a
moment when the CA indeed does not know `a` -/
theorem C20_recreate_only_on_dne {s : St} {e : Ev} {s' : St} {a : Nat} (h : step s e = some s')
    (h0 : s.dneAns a = false) (h1 : s'.dneAns a = true) :
    ∃ p k, e = .order p ∧ s.pc p = .ready a k ∧ s.ca a = false := by
  cases Effect.of_step h with
  | @disowned p b k he hc hca =>
    by_cases hab : a = b
    · subst hab; exact ⟨p, k, he, hc, hca⟩
    · have h1 : updB s.dneAns b true a = true := h1
      rw [updB_other hab, h0] at h1; cases h1
  | _ => exact absurd (h0.symm.trans h1) Bool.false_ne_true

/-- every process in the recreate path is there on behalf of an account the CA disowned -/
theorem C20_recreate_has_answer {s : St} (hr : Reach s) {p a : Nat}
    (h : s.pc p = .dneLock a ∨ s.pc p = .dneCheck a ∨ s.pc p = .dneDelReg a ∨ s.pc p = .dneDelKey a) :
    s.dneAns a = true := by
  have h1 := inv1_reach hr
  rcases h with h | h | h | h
  · exact h1.locAt h
  · exact (h1.locAt h).2
  · exact (h1.locAt h).2.1
  · exact (h1.locAt h).2.1

/-- non-vacuity: the CA forgets account 0; the client's order is answered does-not-exist,
the stored account is deleted under the lock and account 1 is registered and stored; a
second client still holding account 0 is answered does-not-exist too, finds account 1 in
storage, leaves it alone and reuses it -/
def recreateTrace : List Ev :=
  [.start 0, .loadReg 0 false, .acq 0 true, .reload 0 false 0, .register 0 .ok, .savePre 0 false, .saveReg 0 true,
   .saveKey 0 true, .rel 0 true, .start 1, .loadReg 1 false, .loadKey 1 false, .caForget 0,
   .order 0, .order 1, .dneAcq 0 true, .dneCheck 0 false, .dneDelReg 0 true, .dneDelKey 0 true, .dneRel 0 true,
   .loadReg 0 false, .acq 0 true, .reload 0 false 1, .register 0 .ok, .savePre 0 false, .saveReg 0 true, .saveKey 0 true,
   .rel 0 true, .dneAcq 1 true, .dneCheck 1 false, .dneRel 1 true, .loadReg 1 false, .loadKey 1 false, .order 0, .order 1]

example : (run init recreateTrace).map (fun s => (view 2 s, s.dneAns 0, s.dneAns 1)) =
    some (⟨2, 0, 1, some 1, some 1, none, [.ready 1 1, .ready 1 1]⟩, true, false) := by decide +kernel

/-- An account present in storage stays there, through every continuation of the run (any
number of further constructions, orders, faults, recreations on behalf of other accounts),
for as long as the CA has not answered that this account does not exist … -/
theorem C20_present_persists {s : St} {a : Nat} (hr : Reach s) (hreg : s.reg = some a) (hkey : s.key = some a) :
    ∀ {tr : List Ev} {s' : St}, run s tr = some s' → s'.dneAns a = false → s'.reg = some a ∧ s'.key = some a := by
  intro tr s' h hd
  revert h
  fun_induction run s tr <;> intro h
  next => cases h; exact ⟨hreg, hkey⟩
  next s _ _ s1 hs1 ih =>
    by_cases hch : s1.reg = some a ∧ s1.key = some a
    · exact ih (Reach.step hr hs1) hch.1 hch.2 h
    · -- the account was removed: the CA had disowned it, and such an answer is never taken back
      obtain ⟨p, _, _, hda⟩ := C20_never_replaced hr hs1 hreg hkey hch
      have := (run_grows h).dneAns a ((Effect.of_step hs1).grows.dneAns a hda)
      rw [hd] at this; cases this
  next => cases h

/-- … and every construction that begins while it is there returns exactly it, without
taking the lock and without any request to the CA. Together: once an account is present,
every later construction in any instance reuses it. -/
theorem C20_reuse {s : St} {a p : Nat} (hr : Reach s) (hreg : s.reg = some a) (hkey : s.key = some a)
    {tr : List Ev} {s1 : St} (hrun : run s tr = some s1) (hd : s1.dneAns a = false)
    (hp : (s1.pc p).canStart = true) :
    (run s1 [.start p, .loadReg p false, .loadKey p false]).map
        (fun s2 => (s2.pc p, s2.registers, s2.lock, s2.reg, s2.key)) =
      some (.ready a a, s1.registers, s1.lock, some a, some a) := by
  obtain ⟨h1, h2⟩ := C20_present_persists hr hreg hkey hrun hd
  simp [run, step, hp, h1, h2]

/-- no account is ever created at the CA while a complete account is in storage -/
theorem C20_no_register_while_present {s : St} {p : Nat} {out : RegOut} {s' : St} (hr : Reach s)
    (h : step s (.register p out) = some s') : stored s = none := by
  obtain ⟨k, hc⟩ := step_register_pc h
  exact stored_none_iff.mpr ((inv1_reach hr).locAt hc).2.1

/-- non-vacuity of `C20_reuse`: after the race above a fourth process constructs a client -/
example : (run init (raceTrace ++ [.start 3, .loadReg 3 false, .loadKey 3 false])).map
    (fun s => (s.pc 3, s.registers)) = some (.ready 0 0, 1) := by decide +kernel

/-- In a run without storage faults in which the CA forgets nothing, every client that has
been constructed — in any instance, at any time — holds exactly the account that is in
storage, registration and key of one account: every order is placed with the stored account,
and all clients share it. -/
theorem C20_orders_use_stored {s : St} (hr : Reach s) (hf : s.faults = 0) (hg : s.forgets = 0)
    {p a b : Nat} (hp : s.pc p = .ready a b) : a = b ∧ s.reg = some a ∧ s.key = some a :=
  (quiet_reach hr hf hg).locAt hp

/-- … so any two constructed clients, in whatever instances, hold the same account: one account for all. -/
theorem C20_one_account_for_all {s : St} (hr : Reach s) (hf : s.faults = 0) (hg : s.forgets = 0)
    {p q a b c d : Nat} (hp : s.pc p = .ready a b) (hq : s.pc q = .ready c d) : a = c ∧ b = d := by
  obtain ⟨h1, h2, _⟩ := C20_orders_use_stored hr hf hg hp
  obtain ⟨h3, h4, _⟩ := C20_orders_use_stored hr hf hg hq
  cases h2.symm.trans h4
  exact ⟨rfl, h1.symm.trans h3⟩

/-- **With faults too.** Whatever storage faults, lost answers, refused registrations and
forgetting CAs a run contains: the account a constructed client holds (and places its orders
with) has been written to storage successfully at some time, registration and private key —
a client never goes on with an account that exists only in memory because its save failed. -/
theorem C20_orders_only_with_persisted {s : St} (hr : Reach s) {p a b : Nat} (hp : s.pc p = .ready a b) :
    s.regW a = true ∧ s.keyW b = true :=
  (winv_reach hr).pcsAt hp

/-- non-vacuity: the save of a fresh account fails at the key (the registration is rolled back);
the process ends `failed`, not `ready`, and nothing counts as written for the key; a second
process then registers, saves, and is `ready` with an account whose two files were written -/
example : (run init [.start 0, .loadReg 0 false, .acq 0 true, .reload 0 false 0, .register 0 .ok, .savePre 0 false,
    .saveReg 0 true, .saveKey 0 false, .rollback 0 true, .rel 0 true,
    .start 1, .loadReg 1 false, .acq 1 true, .reload 1 false 1, .register 1 .ok, .savePre 1 false,
    .saveReg 1 true, .saveKey 1 true, .rel 1 true]).map
    (fun s => (s.pc 0, s.pc 1, s.regW 0, s.keyW 0, s.regW 1, s.keyW 1)) =
    some (.failed, .ready 1 1, true, false, true, true) := by decide +kernel

/-- two processes that are registering, saving, rolling back, checking or deleting are the
same process -/
theorem C20_writers_exclusive {s : St} (hr : Reach s) {p q : Nat} (hp : (s.pc p).inCS = true)
    (hq : (s.pc q).inCS = true) : p = q :=
  (inv1_reach hr).inCS_eq (loc_lock ((inv1_reach hr).loc q) hq) hp

/-- Whenever `newACMEClient` (hence `newACMEClientWithAccount`, `Issue`, `Revoke`,
`GetRenewalInfo`) succeeds, the URL that became the client's directory — the CA's or, on
retries, the test CA's — has scheme https or an internal host; for every pair of configured
strings. -/
theorem C20_https (ca test : UrlFacts) (testSet useTest : Bool) (w : Which)
    (h : newClient ca test testSet useTest = some w) :
    (w.pick ca test).scheme = httpsL ∨ (w.pick ca test).internal = true :=
  (secureCA_iff.mp (newClient_secure h).2).2

/-- the CA's own URL is always checked, also when the test CA is the one contacted -/
theorem C20_https_ca_checked (ca test : UrlFacts) (testSet useTest : Bool) (w : Which)
    (h : newClient ca test testSet useTest = some w) : ca.scheme = httpsL ∨ ca.internal = true :=
  (secureCA_iff.mp (newClient_secure h).1).2

/-- a string without "://" is parsed with "https://" in front of it (https is assumed), a
string with "://" is parsed as it is; the parsed string always has a scheme separator -/
theorem C20_https_assumed (s : List Char) :
    (hasSep s = false → withScheme s = httpsPrefix ++ s) ∧ (hasSep s = true → withScheme s = s) ∧
    hasSep (withScheme s) = true := by
  refine ⟨fun h => if_neg (ne_true_of_eq_false h), fun h => if_pos h, ?_⟩
  unfold withScheme
  split
  · assumption
  · exact hasSep_append_left _ _ (by decide +kernel)

/-- non-vacuity, and the defect D19 that the rule now excludes: an https CA with a plain-http
public test CA is refused on retries (it used to be contacted in the clear) -/
example : newClient ⟨true, httpsL, false⟩ ⟨true, "http".toList, false⟩ true true = none ∧
    newClient ⟨true, httpsL, false⟩ ⟨true, "http".toList, false⟩ true false = some .ca ∧
    newClient ⟨true, httpsL, false⟩ ⟨true, "http".toList, true⟩ true true = some .test ∧
    newClient ⟨true, "http".toList, true⟩ ⟨true, httpsL, false⟩ false true = some .ca := by decide +kernel

example : withScheme "acme.example/dir".toList = "https://acme.example/dir".toList ∧
    withScheme "HTTP://acme.example/dir".toList = "HTTP://acme.example/dir".toList := by decide +kernel

/-- the private IPv4 ranges, spelled out: the table-driven `internalIP` is exactly this -/
theorem C20_internal_ipv4 (a b c d : Nat) :
    internalIP [a, b, c, d] = (a == 127 || (a == 0 && b == 0) || a == 10 || (a == 172 && 16 ≤ b && b < 32) ||
      (a == 192 && b == 168) || (a == 169 && b == 254)) := by
  -- 172.16.0.0/12 = one whole byte (`inNet_cons`) + the top 4 bits of `b` (`inNet_bits`): `b / 2^4 = 16 / 2^4 = 1`
  have h12 : (b / 16 == 1) = (decide (16 ≤ b) && decide (b < 32)) := by
    rw [Bool.eq_iff_iff]; simp; omega
  simp (disch := decide) only [internalIP, privateNetworks, List.any_cons, List.any_nil, inNet_cons, inNet_zero,
    inNet_bits]
  simp [h12, Bool.or_assoc, Bool.and_assoc]

/-- … and the IPv6 ones (`::1/7` as written in the source is the network `::/7`) -/
theorem C20_internal_ipv6 (b0 b1 x2 x3 x4 x5 x6 x7 x8 x9 x10 x11 x12 x13 x14 x15 : Nat) :
    internalIP [b0, b1, x2, x3, x4, x5, x6, x7, x8, x9, x10, x11, x12, x13, x14, x15] =
      (b0 / 2 == 0 || (b0 == 0xfe && b1 / 64 == 2) || b0 / 2 == 0x7e) := by
  simp (disch := decide) only [internalIP, privateNetworks, List.any_cons, List.any_nil, inNet_cons, inNet_zero,
    inNet_bits]
  simp [Bool.or_assoc]

example : internalHost "ca.internal".toList [] = true ∧ internalHost "localhost".toList [] = true ∧
    internalHost "internal.example.com".toList [] = false ∧ internalHost "127.0.0.1".toList [127, 0, 0, 1] = true ∧
    internalHost "172.32.0.1".toList [172, 32, 0, 1] = false := by decide +kernel

/-- From every reachable state in which nobody holds the lock — whatever faults, crashes
between the two stores, failed roll-backs or abandoned constructions came before (a failed
key deletion of the recreate path excepted) — a single fault-free construction ends with a
complete account in storage and that account in hand. -/
theorem C20_recovers {s : St} {p : Nat} (hr : Reach s) (hd : s.delKeyFaults = 0) (hl : s.lock = none)
    (hp : (s.pc p).canStart = true) :
    ∃ tr a, (run s tr).map (fun s' => (s'.faults, s'.reg, s'.key, s'.pc p, s'.lock)) =
      some (s.faults, some a, some a, .ready a a, none) := by
  rcases C20_persisted_together hr hd with h0 | ⟨a, h1, h2⟩
  · rw [stored_none_iff] at h0
    cases hreg : s.reg with
    | none =>
      refine ⟨[.start p, .loadReg p false, .acq p true, .reload p false s.nextKey, .register p .ok, .savePre p false,
        .saveReg p true, .saveKey p true, .rel p true], s.nextKey, ?_⟩
      simp [run, step, hp, hl, hreg, stored]
    | some x =>
      have hkey : s.key = none := h0.resolve_left (by rw [hreg]; nofun)
      refine ⟨[.start p, .loadReg p false, .loadKey p false, .acq p true, .reload p false s.nextKey, .register p .ok,
        .savePre p false, .saveReg p true, .saveKey p true, .rel p true], s.nextKey, ?_⟩
      simp [run, step, hp, hl, hreg, hkey, stored]
  · exact ⟨[.start p, .loadReg p false, .loadKey p false], a, by simp [run, step, hp, hl, h1, h2]⟩

/-- non-vacuity: after a save that failed twice (key store, roll-back) the next construction
re-registers and completes -/
example : (run init [.start 0, .loadReg 0 false, .acq 0 true, .reload 0 false 0, .register 0 .ok, .savePre 0 false,
    .saveReg 0 true, .saveKey 0 false, .rollback 0 false, .rel 0 true,
    .start 1, .loadReg 1 false, .loadKey 1 false, .acq 1 true, .reload 1 false 1, .register 1 .ok, .savePre 1 false,
    .saveReg 1 true, .saveKey 1 true, .rel 1 true]).map (view 2) =
    some ⟨2, 2, 0, some 1, some 1, none, [.failed, .ready 1 1]⟩ := by decide +kernel

end CM.Account
