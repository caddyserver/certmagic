import CM.Proofs.Challenge
/-!
# C15 — challenge material goes only to the matching validation request, on any node

The theorems hold for **every** environment `E` (sanitiser and case folding — in particular for a
sanitiser that maps different names to the same key, which is what made D12 possible),
every reachable state of the present / clean-up system (any number of nodes, issuers,
challenges, any order of calls obeying acmez's discipline and CertMagic's name lock),
every node, every list of searched prefixes, and every request / ClientHello.
`(n0, p0, c) ∈ S.active` reads “challenge `c` was presented by node `n0` under the issuer
prefix `p0` and has not been cleaned up”: *pending*.
-/
namespace CM.Challenge

/-- **HTTP-01, only the matching request.** If the handler writes a body, then the
challenge handling is enabled, the request is a `GET`, and the body is the key
authorisation of a *pending* challenge whose resource path is exactly the request path and
whose identifier is, case-insensitively, the request's host. -/
theorem C15_http_only_match (E : Env) (S : State) (hR : Reachable E S) (n : Nat) (ps : List Str)
    (disabled : Bool) (r : HttpReq) (body : Str)
    (h : httpAnswer E S n ps disabled r = .serve body) :
    disabled = false ∧ r.method = GET ∧
    ∃ c, body = c.keyAuth ∧ r.path = resourcePath c ∧ eqFold E r.host c.ident = true ∧
      PendingFor S n ps c := by
  obtain ⟨hd, hm, _, e, hl, hs, rfl⟩ := httpAnswer_eq_serve.mp h
  obtain ⟨hp, hh, _⟩ := solves_iff.mp hs
  exact ⟨hd, hm, e.chal, rfl, hp, hh, (lookup_sound (inv_reachable hR) hl).2⟩

/-- **HTTP-01, everything else is passed on.** The handler either passes the request to
the wrapped handler having written nothing, or serves; and it passes it on whenever no
pending challenge visible to this node is solved by the request (wrong method, any other
path — prefix, suffix, other token —, another host, challenge cleaned up, handling disabled). -/
theorem C15_http_passthrough (E : Env) (S : State) (hR : Reachable E S) (n : Nat) (ps : List Str)
    (disabled : Bool) (r : HttpReq)
    (h : disabled = true ∨ r.method ≠ GET ∨ ∀ c, PendingFor S n ps c → solves E r c = false) :
    httpAnswer E S n ps disabled r = .pass := by
  cases hh : httpAnswer E S n ps disabled r with
  | pass => rfl
  | serve body =>
    obtain ⟨h1, h2, c, _, h4, h5, h6⟩ := C15_http_only_match E S hR n ps disabled r body hh
    rcases h with h | h | h
    · rw [h1] at h; cases h
    · exact absurd h2 h
    · have := h c h6
      rw [solves_iff.mpr ⟨h4, h5, h2⟩] at this
      cases this

/-- **TLS-ALPN-01, only the matching hello.** If a challenge certificate is returned, then
the hello offered solely `acme-tls/1`, had a server name, and the certificate is that of a
*pending* challenge whose key (its identifier; for an IP identifier its reverse-DNS name)
is, case-insensitively, that server name. (False before D12 was repaired.) -/
theorem C15_alpn_only_match (E : Env) (S : State) (hR : Reachable E S) (n : Nat) (ps : List Str)
    (h : Hello) (c : Chal) (cached : Bool) (ha : alpnAnswer E S n ps h = .cert c cached) :
    h.protos = [acmeTLS1] ∧ h.sni ≠ [] ∧ eqFold E (challengeKey c) h.sni = true ∧
    PendingFor S n ps c := by
  obtain ⟨hs, hp, e, hl, _, _, rfl⟩ := alpnAnswer_eq_cert.mp ha
  obtain ⟨h1, h2⟩ := lookup_sound (inv_reachable hR) hl
  exact ⟨hp, hs, h1, h2⟩

/-- **TLS-ALPN-01, every other hello** (no server name, or an ALPN list other than exactly
`[acme-tls/1]` — empty, `acme-tls/1` among others, another protocol) takes the ordinary
certificate selection. -/
theorem C15_alpn_other (E : Env) (S : State) (n : Nat) (ps : List Str) (h : Hello)
    (hh : h.sni = [] ∨ h.protos ≠ [acmeTLS1]) : alpnAnswer E S n ps h = .normal := by
  unfold alpnAnswer
  rw [if_neg]
  rintro ⟨h1, h2⟩
  rcases hh with hh | hh
  · exact h1 hh
  · exact hh h2

/-- the validation request a CA sends for an HTTP-01 challenge -/
def reqFor (c : Chal) : HttpReq := { method := GET, path := resourcePath c, host := c.ident }

/-- the validation hello a CA sends for a TLS-ALPN-01 challenge -/
def helloFor (c : Chal) : Hello := { sni := challengeKey c, protos := [acmeTLS1] }

/-- **Any node, while pending (HTTP-01).** While a challenge is pending, *every* node —
the one that presented it, and any node that shares only the storage and whose
configuration searches the issuer prefix it was presented under — answers its validation
request with its key authorisation. The request's host is the identifier, the memory is keyed by
`challengeKey`: `hk` says they agree, which they do for every challenge but a TLS-ALPN-01 one for an IP
identifier, so for every HTTP-01 one. -/
theorem C15_any_node (E : Env) (S : State) (hR : Reachable E S) (n : Nat) (ps : List Str)
    (c : Chal) (hp : PendingFor S n ps c) (hk : challengeKey c = c.ident) :
    httpAnswer E S n ps false (reqFor c) = .serve c.keyAuth := by
  obtain ⟨d, hl⟩ := lookup_complete (inv_reachable hR) hp
  rw [hk] at hl
  exact httpAnswer_eq_serve.mpr ⟨rfl, rfl, List.isPrefixOf_iff_prefix.mpr (List.prefix_append _ _),
    ⟨c, d⟩, hl, solves_iff.mpr ⟨rfl, eqFold_refl, rfl⟩, rfl⟩

/-- **Any node, while pending (TLS-ALPN-01).** Every such node answers the validation hello with the
challenge's certificate; `d` tells whether it is the one made at `Present` (found in this node's
memory) or one made now from the challenge as found in memory or storage. `hne`: a hello with an
empty server name takes the ordinary selection (`C15_alpn_other`). `hid`: without `idnaOK` no
challenge certificate can be made, at `Present` or later, and the answer is `.fail`. -/
theorem C15_any_node_alpn (E : Env) (S : State) (hR : Reachable E S) (n : Nat) (ps : List Str)
    (c : Chal) (hp : PendingFor S n ps c) (hne : challengeKey c ≠ []) (hid : c.idnaOK = true) :
    ∃ d, alpnAnswer E S n ps (helloFor c) = .cert c d := by
  obtain ⟨d, hl⟩ := lookup_complete (inv_reachable hR) hp
  exact ⟨d, alpnAnswer_eq_cert.mpr ⟨hne, rfl, ⟨c, d⟩, hl, rfl, fun _ => hid, rfl⟩⟩

/-- **… whichever CA the order was placed with.** The prefix an issuer presents under —
its production CA's, or its test CA's on a retry — is among the prefixes every node
configured with that issuer searches. (False before D17 was repaired.) -/
theorem C15_any_node_prefix (is : List Issuer) (i : Issuer) (hi : i ∈ is) (useTest : Bool) :
    presentPrefix i useTest ∈ searchPrefixes is := by
  refine mem_searchPrefixes.mpr ⟨i, hi, ?_⟩
  fun_cases presentPrefix i useTest
  · exact .inr ‹_›    -- the test CA's prefix
  all_goals exact .inl rfl    -- no test CA, or the test CA not asked for: the production CA's

/-- **… whatever the configured issuer's Go type.** A node whose configuration holds the
issuer behind the `Issuer` interface only (an application's wrapper reporting the inner
`IssuerKey()`) still searches the prefix of every order placed with the production CA. -/
theorem C15_any_node_wrapped (is : List Issuer) (i : Issuer) (hi : i ∈ is) :
    presentPrefix i false ∈ searchPrefixes (is.map ifaceView) :=
  mem_searchPrefixes.mpr ⟨ifaceView i, List.mem_map.mpr ⟨i, hi, rfl⟩, .inl rfl⟩

example : presentPrefix ⟨"acme/a".toList, some "acme/t".toList⟩ false ∈
    searchPrefixes ([⟨"acme/b".toList, none⟩, ⟨"acme/a".toList, some "acme/t".toList⟩].map ifaceView) :=
  C15_any_node_wrapped _ _ (.tail _ (.head _))

/-- **Exactly while pending.** In every reachable state a challenge is pending iff it is
in its node's memory and its token file is in storage under its prefix … -/
theorem C15_exactly_while_pending (E : Env) (S : State) (hR : Reachable E S) (n : Nat) (p : Str)
    (c : Chal) :
    (n, p, c) ∈ S.active ↔
      (S.mem n (challengeKey c) = some ⟨c, setsData c⟩ ∧ S.store p (E.safe (challengeKey c)) = some c) := by
  have hI := inv_reachable hR
  constructor
  · intro h; exact hI.act_ok _ h
  · rintro ⟨h1, h2⟩
    obtain ⟨_, _, q, h3⟩ := hI.mem_ok _ _ _ h1
    obtain ⟨_, m, h4⟩ := hI.store_ok _ _ _ h2
    cases hI.unique h3 h4 rfl
    exact h3

/-- … it becomes so by `Present` … -/
theorem C15_pending_after_present (E : Env) (S S' : State) (n : Nat) (p : Str) (c : Chal)
    (hs : step E S (.present n p c) = some S') : (n, p, c) ∈ S'.active :=
  (step_present.mp hs).2 ▸ List.mem_cons_self

/-- … and after `CleanUp` neither the memory entry nor the token file exists, and the
challenge is no longer pending: no request or hello is answered with it any more
(`C15_http_only_match`, `C15_alpn_only_match`). -/
theorem C15_gone_after_cleanUp (E : Env) (S S' : State) (hR : Reachable E S) (n : Nat) (p : Str)
    (c : Chal) (hs : step E S (.cleanUp n p c) = some S') :
    S'.mem n (challengeKey c) = none ∧ S'.store p (E.safe (challengeKey c)) = none ∧
    (n, p, c) ∉ S'.active := by
  obtain ⟨_, rfl⟩ := step_cleanUp.mp hs
  refine ⟨by rw [mem_cleanUp, if_pos ⟨rfl, rfl⟩], by rw [store_cleanUp, if_pos ⟨rfl, rfl⟩], fun h => ?_⟩
  exact ((nodup_of_distinct (inv_reachable hR).distinct).mem_erase_iff.mp h).1 rfl

/-! ### non-vacuity: concrete states, requests and hellos -/

section examples

/-- a sanitiser that drops `!` and lower-cases ASCII (so `vic!tim.example` and
`victim.example` collide, as under `StorageKeys.Safe`) -/
def exEnv : Env where
  safe s := (s.filter (· != '!')).map Char.toLower
  fold c := c.toLower

def exChal : Chal :=
  { typ := .http01, isIP := false, ident := "victim.example".toList, rev := none, idnaOK := true
    token := "tok".toList, keyAuth := "tok.thumb".toList }

def exAlpn : Chal :=
  { typ := .tlsalpn01, isIP := true, ident := "10.0.0.1".toList
    rev := some "1.0.0.10.in-addr.arpa".toList, idnaOK := true
    token := "tok2".toList, keyAuth := "tok2.thumb".toList }

def exPfx : Str := "acme/ca".toList

def exTrace : List Ev := [.present 0 exPfx exChal, .present 0 exPfx exAlpn]

theorem exRun_some : (run exEnv State.empty exTrace).isSome = true := by decide +kernel

def exState : State := (run exEnv State.empty exTrace).get exRun_some

theorem exState_reachable : Reachable exEnv exState :=
  ⟨exTrace, (Option.some_get exRun_some).symm⟩

-- node 7 shares only the storage: the exact request is served …
example : httpAnswer exEnv exState 7 [exPfx] false (reqFor exChal) = .serve "tok.thumb".toList := by decide +kernel
-- … also with the host in another case (a port is stripped by Go before the model sees the host) …
example : httpAnswer exEnv exState 7 [exPfx] false { reqFor exChal with host := "VICTIM.example".toList }
    = .serve "tok.thumb".toList := by decide +kernel
-- … but not a host that merely sanitises to the same key, a longer path, or a POST
example : httpAnswer exEnv exState 7 [exPfx] false { reqFor exChal with host := "vic!tim.example".toList } = .pass := by decide +kernel
example : httpAnswer exEnv exState 7 [exPfx] false { reqFor exChal with path := (resourcePath exChal) ++ ['/'] } = .pass := by decide +kernel
example : httpAnswer exEnv exState 7 [exPfx] false { reqFor exChal with method := "POST".toList } = .pass := by decide +kernel
-- a node that does not search the prefix cannot answer
example : httpAnswer exEnv exState 7 ["acme/other".toList] false (reqFor exChal) = .pass := by decide +kernel
-- TLS-ALPN: the reverse name of the IP identifier selects the challenge certificate, on any node
example : alpnAnswer exEnv exState 7 [exPfx] (helloFor exAlpn) = .cert exAlpn false := by decide +kernel
example : alpnAnswer exEnv exState 0 [exPfx] (helloFor exAlpn) = .cert exAlpn true := by decide +kernel
-- D12's witness: an SNI that only sanitises to the identifier gets an error, not the certificate
example : alpnAnswer exEnv exState 7 [exPfx] { sni := "vic!tim.example".toList, protos := [acmeTLS1] } = .fail := by decide +kernel
example : alpnAnswer exEnv exState 7 [exPfx] { sni := "victim.example".toList, protos := [acmeTLS1, "h2".toList] } = .normal := by decide +kernel
-- hypotheses of the theorems are satisfiable
example : PendingFor exState 7 [exPfx] exChal := ⟨0, exPfx, by decide +kernel, Or.inr (by decide +kernel)⟩
example : ∃ S', step exEnv exState (.cleanUp 0 exPfx exChal) = some S' ∧
    httpAnswer exEnv S' 7 [exPfx] false (reqFor exChal) = .pass :=
  ⟨_, step_cleanUp.mpr ⟨by decide +kernel, rfl⟩, by decide +kernel⟩
example : presentPrefix ⟨"acme/prod".toList, some "acme/staging".toList⟩ true ∈
    searchPrefixes [⟨"acme/prod".toList, some "acme/staging".toList⟩] :=
  C15_any_node_prefix _ _ (.head _) true

end examples

end CM.Challenge
