import CM.Model.Cache
import CM.Proofs.Cache
/-!
# C12 — the certificate cache and its name index always agree, within capacity

The state is the pair of maps of `cache.go` plus the capacity; an event is one critical
section of `Cache.mu` (see `CM.Cache.Ev`). `Inv` says: no hash is stored twice, keys are the
hashes of their certificates, `h` is listed under `n` exactly as often as `n` occurs among
the names of the cached certificate with hash `h` (so: index ⊆ cache and cache ⊆ index),
no index key has an empty list, and the size is within a positive capacity.

The theorems hold for EVERY finite history of events, every capacity, and every choice of
eviction victim (the victim is an input of the event).
-/
namespace CM.Cache

/-- the empty cache satisfies the invariant -/
theorem C12_inv_init (cap : Nat) : Inv (init cap) := inv_init cap

/-- every operation (add with dedup/tag-merge/eviction of ANY victim, `Remove`,
`RemoveManaged`, `replaceCertificate`, removal of a caller's copy, the guarded write-backs of
maintain.go, the handshake's write-back) preserves the invariant -/
theorem C12_inv_step (s s' : State) (e : Ev) (hI : Inv s) (h : step s e = some s') : Inv s' :=
  inv_step hI h

/-- … hence so does every finite history -/
theorem C12_inv_run (es : List Ev) (s s' : State) (hI : Inv s) (h : run s es = some s') : Inv s' :=
  (inv_cap_run hI h).1

/-- every state reachable from the empty cache, for any capacity -/
theorem C12_inv_reachable (cap : Nat) (es : List Ev) (s : State) (h : run (init cap) es = some s) :
    Inv s := (inv_cap_run (inv_init cap) h).1

/-- the number of cached certificates never exceeds a positive capacity -/
theorem C12_within_capacity (cap : Nat) (es : List Ev) (s : State) (h : run (init cap) es = some s)
    (hc : cap > 0) : s.cache.length ≤ cap := by
  obtain ⟨hI, hcap⟩ := inv_cap_run (inv_init cap) h
  cases hcap
  exact hI.capOK hc

/-- index ⊆ cache: a hash listed under a name belongs to a cached certificate that lists
that name -/
theorem C12_index_sound (s : State) (hI : Inv s) (n : Name) (h : Hash) (hm : h ∈ hashesOf s n) :
    ∃ c, get? h s.cache = some c ∧ c.hash = h ∧ n ∈ c.names := by
  obtain ⟨c, hg, hn⟩ := (mem_hashesOf_iff hI n h).mp hm
  exact ⟨c, hg, (hI.keyHash h c hg).1, hn⟩

/-- cache ⊆ index: every cached certificate is listed under each of its names -/
theorem C12_index_complete (s : State) (hI : Inv s) (h : Hash) (c : Cert) (hg : get? h s.cache = some c)
    (n : Name) (hn : n ∈ c.names) : h ∈ hashesOf s n :=
  (mem_hashesOf_iff hI n h).mpr ⟨c, hg, hn⟩

/-- looking up a name (`getAllMatchingCerts`) returns exactly the cached certificates that
list that name -/
theorem C12_lookup_exact (s : State) (hI : Inv s) (n : Name) (c : Cert) :
    c ∈ matching s n ↔ (get? c.hash s.cache = some c ∧ n ∈ c.names) :=
  mem_matching_iff hI n c

/-- no lookup ever yields Go's zero certificate -/
theorem C12_lookup_nonzero (s : State) (hI : Inv s) (n : Name) (c : Cert) (hm : c ∈ matching s n) :
    c.hash ≠ "" :=
  (hI.keyHash _ _ ((mem_matching_iff hI n c).mp hm).1).2

/-- re-adding a cached certificate stores nothing twice: the index and the set of cached
hashes are unchanged, the entry keeps its names and its existing tags (in order) and gains
exactly the missing tags of the re-added copy -/
theorem C12_readd_merges_tags (s s' : State) (c e : Cert) (hg : get? c.hash s.cache = some e)
    (h : step s (.add c none) = some s') :
    s'.index = s.index ∧
    (∀ h', (get? h' s'.cache).isSome = (get? h' s.cache).isSome) ∧
    (∃ e', get? c.hash s'.cache = some e' ∧ e'.names = e.names ∧ e'.hash = e.hash ∧
      e.tags <+: e'.tags ∧ ∀ t, t ∈ e'.tags ↔ t ∈ e.tags ∨ t ∈ c.tags) := by
  cases addCert_cases (step_add.mp h).2 with
  | same _ _ ht =>
    exact ⟨rfl, fun _ => rfl, e, hg, rfl, rfl, List.prefix_refl _, fun t => by simp [ht]⟩
  | merge e' hg' =>
    rw [hg] at hg'; cases hg'
    refine ⟨rfl, fun h' => ?_, _, get?_put_self, rfl, rfl, mergeTags_prefix, mem_mergeTags _ _⟩
    simp only [get?_put]
    split
    · rename_i e1; rw [e1, hg]; rfl
    · rfl
  | fresh hn => rw [hg] at hn; cases hn

/-- after `replaceCertificate(old, new)` every name of `new` resolves to `new`'s hash, whose
cached certificate has `new`'s names; and (if the hashes differ) `old` is gone from the cache
and from every index entry -/
theorem C12_replace (s s' : State) (old new : Cert) (v : Option Hash) (hI : Inv s)
    (hnew : agrees s new = true) (h : step s (.replace old new v) = some s') :
    (∃ c', get? new.hash s'.cache = some c' ∧ c'.names = new.names) ∧
    (∀ n, n ∈ new.names → new.hash ∈ hashesOf s' n) ∧
    (old.hash ≠ new.hash → get? old.hash s'.cache = none ∧ ∀ n, old.hash ∉ hashesOf s' n) := by
  have hI' : Inv s' := inv_step hI h
  obtain ⟨_, _, h⟩ := step_replace.mp h
  have hnew' : agrees (removeCert old s) new = true := by
    refine agrees_iff.mpr fun e he => ?_
    rw [get?_removeCert] at he
    split at he
    · cases he
    · exact agrees_iff.mp hnew e he
  obtain ⟨c', hc', hn'⟩ := addCert_get_self hnew' h
  refine ⟨⟨c', hc', hn'⟩, fun n hn => (mem_hashesOf_iff hI' n _).mpr ⟨c', hc', hn' ▸ hn⟩, fun hne => ?_⟩
  have hgone : get? old.hash s'.cache = none :=
    addCert_absent_stays hne (by rw [get?_removeCert, if_pos rfl]) h
  refine ⟨hgone, fun n hm => ?_⟩
  obtain ⟨c, hg, _⟩ := (mem_hashesOf_iff hI' n _).mp hm
  rw [hgone] at hg; cases hg

/-- the executable check used by the driver on the IMPLEMENTATION's maps is sound: a state it
accepts satisfies the invariant (so a passing run certifies `Inv` of every observed state) -/
theorem C12_invCheck_sound (s : State) (h : invCheck s = none) : Inv s := by
  revert h
  fun_cases invCheck s
  all_goals intro h; cases h
  -- the one accepting leaf: the eight checks failed to fire; as propositions
  next h1 h2 h3 h4 h5 h6 h7 h8 =>
    simp only [Bool.not_eq_true', Bool.not_eq_false, List.any_eq_true, Bool.and_eq_true,
      Bool.or_eq_true, decide_eq_true_eq, not_exists, not_and, not_or, Option.isNone_iff_eq_none, Nat.not_lt,
      Decidable.not_not] at h1 h2 h3 h4 h5 h6 h7 h8
    refine ⟨nodupB_sound h1, nodupB_sound h2, fun k c hg => h3 _ (mem_of_get? hg), ?_,
      fun n l hg => h4 _ (mem_of_get? hg), h5⟩
    refine agree_of_bounded (fun n h hm => ?_) h6 h7 h8
    obtain ⟨l, hl, hh⟩ := mem_of_mem_idxGet hm
    exact ⟨List.mem_append_left _ (List.mem_map_of_mem hl), List.mem_append_right _ (List.mem_flatMap.mpr ⟨_, hl, hh⟩)⟩

/-! ### why the handshake's write-back had to be guarded (defect D6) -/

def wA : Cert := { hash := "hA", names := ["a.example".toList], tags := [], managed := true, issuer := "i", ari := 0 }
def wB : Cert := { hash := "hB", names := ["b.example".toList], tags := [], managed := true, issuer := "i", ari := 0 }

/-- the unguarded write-back `cache[hash] = copy` does NOT preserve the invariant: after the
certificate was removed (here: evicted at capacity 1) it comes back without index entries
and beyond the capacity -/
theorem C12_unguarded_writeback_breaks_inv :
    ∃ s c, Inv s ∧ agrees s c = true ∧ ¬ Inv (hsWriteBackUnguarded c s) := by
  refine ⟨(insertNew wB (init 1)), wA, ?_, by decide, ?_⟩
  · exact inv_insertNew (inv_init 1) rfl (by decide) (by intro _; decide)
  · intro hI
    have := hI.capOK (by decide)
    revert this
    decide

/-! ### non-vacuity: concrete histories the theorems speak about -/

/-- two certificates sharing a name, capacity 2, then a third: one of them (the input
`victim`) is evicted; then `Remove`, `RemoveManaged`, a write-back to a removed hash -/
example :
    let c1 : Cert := { hash := "h1", names := ["a".toList, "b".toList, "a".toList], tags := ["t"], managed := true, issuer := "i", ari := 0 }
    let c2 : Cert := { hash := "h2", names := ["a".toList], tags := [], managed := false, issuer := "", ari := 0 }
    let c3 : Cert := { hash := "h3", names := ["b".toList], tags := [], managed := true, issuer := "j", ari := 0 }
    (run (init 2) [.add c1 none, .add c2 none, .add { c1 with tags := ["u"] } none, .add c3 (some "h2"),
        .ariWB "h1" 7, .remove ["h3", "zz"], .hsWB c3, .removeManaged [("a".toList, "")],
        .replace c1 c2 none]).map
      (fun s => (s.cache.map (·.1), s.cache.map (·.2.tags), hashesOf s "a".toList, hashesOf s "b".toList))
      = some (["h2"], [[]], ["h2"], []) := by decide +kernel

/-- the history above as far as the eviction: index lists in insertion order, duplicates kept -/
example :
    let c1 : Cert := { hash := "h1", names := ["a".toList, "b".toList, "a".toList], tags := ["t"], managed := true, issuer := "i", ari := 0 }
    let c2 : Cert := { hash := "h2", names := ["a".toList], tags := [], managed := false, issuer := "", ari := 0 }
    (run (init 2) [.add c1 none, .add c2 none, .add { c1 with tags := ["u", "t"] } none]).map
      (fun s => (hashesOf s "a".toList, (get? "h1" s.cache).map (·.tags), invCheck s))
      = some (["h1", "h1", "h2"], some ["t", "u"], none) := by decide +kernel

/-- an event that is not a behaviour of the code is rejected (wrong victim) -/
example : run (init 1) [.add wA none, .add wB (some "nope")] = none := by decide +kernel

/-- the executable invariant check rejects the state the unfixed write-back produced -/
example : invCheck (hsWriteBackUnguarded wA (insertNew wB (init 1))) = some "over-capacity" := by decide +kernel
example : invCheck (hsWriteBackUnguarded wA (insertNew wB (init 0))) = some "cached-cert-not-indexed" := by decide +kernel

end CM.Cache
