import CM.Proofs.Async
/-!
# C19 — background work retries with back-off; no job is lost

Theorems about the models of `CM/Model/Async.lean`:

* (a) `doWithRetry`, for every script of outcomes and durations of the attempts, every instant
  of cancellation and every resolution of a simultaneous timer/cancellation;
* (b) the job manager, for every reachable state of its transition system, i.e. every
  interleaving of submissions with running, failing and panicking jobs and any number of
  workers;
* (c) `ACMEIssuer.Issue`, for every attempt number, CA / test CA configuration and outcome of
  the one or two orders.

Trace positions are 0-based: the entry at position `p` is the `(p+1)`-th attempt.
-/
namespace CM.Async

/-- **Attempt numbers.** The i-th attempt (0-based) reads the value `i` from the attempts
counter: issuers see 0, 1, 2, … — for any table and maximum duration. -/
theorem C19_attempt_numbers (tbl : List Nat) (mx : Nat) (i : RetryIn) (p n t : Nat)
    (h : (retryWith tbl mx i).trace[p]? = some (n, t)) : n = p :=
  ((retryWith_run tbl mx i).entry h).1

example : ∃ i : RetryIn, (retry i).trace = [(0, 0), (1, 60000000000), (2, 180000000007)] :=
  ⟨{ script := fun k => if k = 1 then ⟨.fail, 7⟩ else if k = 2 then ⟨.ok, 0⟩ else ⟨.fail, 0⟩
     cancelAt := none, tie := fun _ => false }, by decide +kernel⟩

/-- the first attempt is made at once -/
theorem C19_first_immediate (tbl : List Nat) (mx : Nat) (i : RetryIn) (n t : Nat)
    (h : (retryWith tbl mx i).trace[0]? = some (n, t)) : t = 0 :=
  ((retryWith_run tbl mx i).entry h).2.1

/-- **Back-off, any table.** Attempt `p+1` starts exactly `tbl[min(p, last)]` after attempt
`p` ended (attempt `p` started at `t` and took `(script p).dur`), and for a positive table
that pause is never zero. In 1-based numbering: the wait before attempt `k ≥ 2` is
`tbl[min(k-2, last)]`. -/
theorem C19_backoff_any (tbl : List Nat) (hp : Positive tbl) (mx : Nat) (i : RetryIn)
    (p n t n' t' : Nat)
    (h : (retryWith tbl mx i).trace[p]? = some (n, t))
    (h' : (retryWith tbl mx i).trace[p + 1]? = some (n', t')) :
    t' = t + (i.script p).dur + tbl.getD (min p (tbl.length - 1)) 0 ∧
    0 < tbl.getD (min p (tbl.length - 1)) 0 := by
  refine ⟨?_, wait_pos hp p⟩
  rw [((retryWith_run tbl mx i).entry h).2.1, ((retryWith_run tbl mx i).entry h').2.1, ← wait_succ hp.1 p]
  rfl

/-- the table of async.go satisfies the hypothesis `Positive` of the any-table theorems -/
theorem C19_table_positive : Positive table := by
  refine ⟨by decide +kernel, ?_⟩
  decide +kernel

/-- every one of the 25 entries of the table of async.go is at least a minute -/
theorem C19_table_ge_minute : ∀ j, j ≤ 24 → minute ≤ table.getD j 0 := by decide +kernel

/-- **Back-off, the table of async.go.** Attempt `p+1` starts exactly `table[min(p, 24)]`
after attempt `p` ended, and that pause is at least one minute — never an immediate retry. -/
theorem C19_backoff (i : RetryIn) (p n t n' t' : Nat)
    (h : (retry i).trace[p]? = some (n, t)) (h' : (retry i).trace[p + 1]? = some (n', t')) :
    t' = t + (i.script p).dur + table.getD (min p 24) 0 ∧ minute ≤ table.getD (min p 24) 0 := by
  have := (C19_backoff_any table C19_table_positive maxDur i p n t n' t' h h').1
  exact ⟨this, C19_table_ge_minute _ (by omega)⟩

/-- non-vacuity: 30 failures then success; the table's 25 entries add up to 24 h, and every
later attempt waits the last entry (6 h) -/
example : ∃ i : RetryIn, (retry i).trace.length = 31 ∧ (retry i).res = .ok ∧
    (retry i).trace[25]? = some (25, 86400000000000) ∧
    (retry i).trace[26]? = some (26, 86400000000000 + 6 * hour) ∧
    (retry i).trace[27]? = some (27, 86400000000000 + 12 * hour) :=
  ⟨{ script := fun k => if k < 30 then ⟨.fail, 0⟩ else ⟨.ok, 0⟩, cancelAt := none, tie := fun _ => false },
   by decide +kernel⟩

/-- **Stopping.** (1) An attempt that is followed by another attempt failed with a plain
(retryable) error: nothing is attempted after a success, a non-retryable error or a
cancellation error. (2) With a positive table no attempt starts after the instant of
cancellation. (3) If the loop ends by cancellation it returns at the instant of cancellation —
or, if an attempt was in progress then, when that attempt ends — and, by (2), without a further
attempt. (4) In every other case it returns when its last attempt ends, with the result that
attempt's outcome dictates; it gives up — returning that attempt's error (`gaveUpErr`), never nil —
only when the maximum duration has elapsed. -/
theorem C19_stops (tbl : List Nat) (mx : Nat) (i : RetryIn) :
    (∀ (p n t : Nat) (x : Nat × Nat), (retryWith tbl mx i).trace[p]? = some (n, t) →
        (retryWith tbl mx i).trace[p + 1]? = some x → (i.script p).out = .fail) ∧
    (Positive tbl → ∀ c, i.cancelAt = some c →
        ∀ (p n t : Nat), (retryWith tbl mx i).trace[p]? = some (n, t) → t ≤ c) ∧
    ((retryWith tbl mx i).res = .canceled → ∃ c, i.cancelAt = some c ∧
        (retryWith tbl mx i).ret = max c (lastEnd i (retryWith tbl mx i).trace)) ∧
    ((retryWith tbl mx i).res ≠ .canceled → (retryWith tbl mx i).res ≠ .outOfFuel →
        (retryWith tbl mx i).ret = lastEnd i (retryWith tbl mx i).trace ∧
        ∃ n t, (retryWith tbl mx i).trace.getLast? = some (n, t) ∧
          ResMatches (retryWith tbl mx i).res (i.script n).out ∧
          ((retryWith tbl mx i).res = .gaveUpErr → mx ≤ t + (i.script n).dur)) := by
  -- `EndsWell mx i (enterAt tbl i 0) _` is the last two conjuncts verbatim: `enterAt tbl i 0` is `0`
  -- and `lastEnd i` is `lastEndFrom i 0`, both by `rfl`
  refine ⟨?_, retryWith_start_le_cancel, (retryWith_run tbl mx i).ends⟩
  intro p n t x h h'
  obtain ⟨_, _, _, hnext⟩ := (retryWith_run tbl mx i).entry h
  exact (hnext x h').1

example : ∃ i : RetryIn, (retry i).trace = [(0, 0), (1, 60000000000)] ∧ (retry i).res = .canceled ∧
    (retry i).ret = 90000000000 :=
  ⟨{ script := fun _ => ⟨.fail, 0⟩, cancelAt := some 90000000000, tie := fun _ => false }, by decide +kernel⟩

example : ∃ i : RetryIn, (retry i).trace = [(0, 0), (1, 60000000003)] ∧ (retry i).res = .noRetry :=
  ⟨{ script := fun k => if k = 0 then ⟨.fail, 3⟩ else ⟨.noRetry, 0⟩, cancelAt := none, tie := fun _ => false },
   by decide +kernel⟩

/-- **Giving up / termination.** (1) With a positive table the recursion never runs out of its
fuel `mx + 2`: the model's trace is the complete, finite behaviour for every (infinite) script.
(2) The pause before a retry always begins before `mx` has elapsed: no retry is scheduled once
the maximum duration is over. (3) If every attempt fails and nobody cancels, the loop gives up
(its result is the last attempt's error),
and it does so when an attempt ends at or after `mx`. (4) The trace has at most `mx + 2` entries. -/
theorem C19_gives_up (tbl : List Nat) (hp : Positive tbl) (mx : Nat) (i : RetryIn) :
    (retryWith tbl mx i).res ≠ .outOfFuel ∧
    (∀ (p n t : Nat) (x : Nat × Nat), (retryWith tbl mx i).trace[p]? = some (n, t) →
        (retryWith tbl mx i).trace[p + 1]? = some x → t + (i.script p).dur < mx) ∧
    ((∀ k, (i.script k).out = .fail) → i.cancelAt = none →
        (retryWith tbl mx i).res = .gaveUpErr ∧ mx ≤ lastEnd i (retryWith tbl mx i).trace) ∧
    (retryWith tbl mx i).trace.length ≤ mx + 2 := by
  have hrun := retryWith_run tbl mx i
  have hfuel := hrun.fuel hp (Nat.zero_le mx) (Nat.lt_add_of_pos_right (Nat.succ_pos 1))
  refine ⟨hfuel, fun p n t x h h' => ?_, fun hf hc => ?_, hrun.length⟩
  · obtain ⟨_, ht, _, hnext⟩ := hrun.entry h
    rw [ht]
    exact (hnext x h').2
  · -- not cancelled, so the last attempt's outcome decides, and that is a failure
    have hnc : (retryWith tbl mx i).res ≠ .canceled := fun h => by
      obtain ⟨c, hc', _⟩ := hrun.ends.1 h
      rw [hc] at hc'
      cases hc'
    obtain ⟨_, n, t, hl, hm, hg⟩ := hrun.ends.2 hnc hfuel
    have hres := (hf n ▸ hm).fail
    exact ⟨hres, lastEnd_of_getLast hl ▸ hg hres⟩

/-- non-vacuity with the constants of async.go: all attempts fail (each taking 1 s) ⇒ 142
attempts, the last one starting 29 d 18 h 2 min 20 s after the start, then the loop gives up
30 d 0 h 2 min 22 s after the start -/
example : ∃ i : RetryIn, (∀ k, (i.script k).out = .fail) ∧ (retry i).res = .gaveUpErr ∧
    (retry i).trace.length = 142 ∧ (retry i).ret = 2592142000000000 :=
  ⟨{ script := fun _ => ⟨.fail, 1000000000⟩, cancelAt := none, tie := fun _ => false },
   fun _ => rfl, by decide +kernel⟩

/-- the attempt part of the executable specification accepts every suffix of a model trace -/
theorem C19_spec_attempts_model (i : RetryIn) : ∀ (tr : List (Nat × Nat)) (p : Nat),
    (∀ q, tr[q]? = (retry i).trace[p + q]?) → specGo i.script i.cancelAt p tr = none := by
  intro tr
  induction tr with
  | nil => intro p _; rfl
  | cons a rest ih =>
    intro p h
    obtain ⟨n, t⟩ := a
    have h0 : (retry i).trace[p]? = some (n, t) := (h 0).symm
    cases C19_attempt_numbers table maxDur i p n t h0
    have hcan : afterCancel i.cancelAt t = false := afterCancel_false fun c hc =>
      retryWith_start_le_cancel C19_table_positive c hc p p t h0
    cases rest with
    | nil => exact specGo_last hcan
    | cons b rest' =>
      obtain ⟨n', t'⟩ := b
      have h1 : (retry i).trace[p + 1]? = some (n', t') := (h 1).symm
      obtain ⟨hgap, hmin⟩ := C19_backoff i p p t n' t' h0 h1
      rw [specGo_next hcan ((C19_stops table maxDur i).1 p p t (n', t') h0 h1)
        ((C19_gives_up table C19_table_positive maxDur i).2.1 p p t (n', t') h0 h1) hgap hmin]
      exact ih (p + 1) fun q => by rw [Nat.add_right_comm]; exact h (q + 1)

/-- **The executable specification is implied by the theorems**: it accepts every run of the
model (`retry`), attempts and end, for every script, cancellation instant and tie resolution.
So a `bad:` verdict on an implementation trace always marks behaviour that no run of the model
has. -/
theorem C19_spec_accepts_model (i : RetryIn) :
    specAttempts i.script i.cancelAt (retry i).trace = none ∧
    specEnd i.script i.cancelAt (retry i).trace (retry i).res (retry i).ret = none := by
  refine ⟨C19_spec_attempts_model i _ 0 (fun q => by rw [Nat.zero_add]), ?_⟩
  have hfuel := (C19_gives_up table C19_table_positive maxDur i).1
  obtain ⟨_, _, h3, h4⟩ := C19_stops table maxDur i
  unfold retry
  by_cases hres : (retryWith table maxDur i).res = .canceled
  · obtain ⟨c, hc, hr⟩ := h3 hres
    rw [hres, hc]
    exact specEnd_canceled hr
  · obtain ⟨hr, n, t, hl, hm, hg⟩ := h4 hres hfuel
    rw [hr, lastEnd_of_getLast hl]
    exact specEnd_final hl hm hg

/-- non-vacuity of the specification itself -/
example : specAttempts (fun _ => ⟨.fail, 0⟩) none [(0, 0), (1, 0)] = some "retry-too-soon" ∧
    specAttempts (fun _ => ⟨.fail, 0⟩) none [(0, 0), (0, 60000000000)] = some "attempt-number" ∧
    specAttempts (fun _ => ⟨.ok, 0⟩) none [(0, 0), (1, 60000000000)] = some "attempt-after-terminal" ∧
    specAttempts (fun _ => ⟨.fail, 0⟩) (some 5) [(0, 0), (1, 60000000000)] = some "attempt-after-cancel" := by
  decide +kernel

/-- **At most one job per name.** In every reachable state, for every non-empty name `n`, at
most one job named `n` is queued, running, or finished-but-not-yet-released; concretely: two
queue positions never carry the same name, a name held by a worker is not in the queue, and two
workers never hold the same name. -/
theorem C19_jobs_unique {m : Nat} {s : JM} (hr : Reachable m s) (n : String) (hn : n ≠ "") :
    occ s n ≤ 1 ∧
    (∀ (a b : Nat) ja jb, s.queue[a]? = some ja → s.queue[b]? = some jb →
        ja.name = n → jb.name = n → a = b) ∧
    (∀ w j, (s.ws w = .running j ∨ s.ws w = .finishing j) → j.name = n →
        (∀ j' ∈ s.queue, j'.name ≠ n) ∧
        ∀ w' j', w' ≠ w → (s.ws w' = .running j' ∨ s.ws w' = .finishing j') → j'.name ≠ n) := by
  have hi := inv_reachable hr
  have hocc := hi.occ_le_one hn
  refine ⟨hocc, fun a b ja jb ha hb hja hjb => countP_le_one_unique (Nat.le_trans (Nat.le_add_right _ _) hocc)
    a b ja jb ha hb (decide_eq_true hja) (decide_eq_true hjb), fun w j hw hj => ?_⟩
  obtain ⟨hlt, h1⟩ := holds_one hi hw hj
  -- worker `w` accounts for the one occurrence: without it there is none, in the queue or with a worker
  have hrest := sumW_upd_lt (holdsW n) s.ws w .off s.nextW hlt
  rw [h1] at hrest
  obtain ⟨hq0, hw0⟩ : s.queue.countP (fun j => j.name = n) = 0 ∧
      sumW (holdsW n) (upd s.ws w .off) s.nextW = 0 := by
    refine Nat.add_eq_zero_iff.mp (Nat.le_zero.mp (Nat.le_of_succ_le_succ ?_))
    rw [Nat.succ_eq_add_one, Nat.add_assoc, hrest]
    exact hocc
  refine ⟨fun j' hj' hn' => List.countP_eq_zero.mp hq0 j' hj' (decide_eq_true hn'), fun w' j' hne hw' hj' => ?_⟩
  obtain ⟨hlt', h1'⟩ := holds_one hi hw' hj'
  have := le_sumW (g := holdsW n) (f := upd s.ws w .off) s.nextW w' hlt'
  rw [upd_other hne, h1', hw0] at this
  cases this

/-- the events of a small history: two workers, a duplicate submission, a panic -/
def demoRun : List Ev :=
  [.submit 1 "a", .take 0, .submit 2 "b", .take 1, .submit 3 "a", .submit 4 "c",
   .jobPanic 0, .release 0, .take 0]

example : ∃ s, run (init 2) demoRun = some s ∧ s.queue = [] ∧ s.active = 2 ∧
    s.ws 0 = .running ⟨4, "c"⟩ ∧ s.ws 1 = .running ⟨2, "b"⟩ ∧
    s.names "a" = false ∧ s.names "b" = true ∧ occ s "b" = 1 := by
  decide +kernel

/-- the number of live workers is `activeWorkers` and never exceeds `maxConcurrentJobs` -/
theorem C19_jobs_bounded {m : Nat} {s : JM} (hr : Reachable m s) :
    s.active ≤ m ∧ s.active = sumW aliveW s.ws s.nextW := by
  have hi := inv_reachable hr
  exact ⟨hi.maxW ▸ hi.bound, hi.act⟩

/-- **Every submitted job runs** (`maxConcurrentJobs ≥ 1`). In every reachable state:

1. a non-empty queue has a live worker: `activeWorkers > 0` and some started worker goroutine
   has not exited;
2. while the queue is non-empty some worker event is enabled — a stall can only come from a job
   that does not terminate (`jobReturn`/`jobPanic` never happening) or from the scheduler;
3. the job at queue position `p` is dequeued — as the `p`-th job dequeued from here on, i.e. in
   FIFO order — in every run from this state that contains more than `mu s p = 3·p + Σ_w work(w)`
   worker events (`work` = 2 for a worker inside a job, 1 for one about to release a name, 0
   otherwise), whatever submissions are interleaved. Every worker event other than dequeuing
   that very job strictly lowers `mu`; this is the measure argument. "Jobs terminate and workers
   are scheduled" is the hypothesis "worker events keep occurring". -/
theorem C19_jobs_run {m : Nat} (hm : 1 ≤ m) {s : JM} (hr : Reachable m s) :
    (s.queue ≠ [] → 0 < s.active ∧ ∃ w, w < s.nextW ∧ s.ws w ≠ .off) ∧
    (s.queue ≠ [] → ∃ e, e.isWorker = true ∧ (step s e).isSome = true) ∧
    (∀ (p : Nat) (j : Job) (es : List Ev) (s' : JM), s.queue[p]? = some j → run s es = some s' →
        mu s p < workerEvents es → (takenJobs s es)[p]? = some j) := by
  have hi := inv_reachable hr
  exact ⟨fun hq => ⟨hi.live hm hq, live_worker hm hi hq⟩, worker_enabled hm hi, taken_bound hi⟩

/-- non-vacuity: one worker busy with job 1, jobs 2 and 3 queued; `mu` for job 3 (position 1)
is 3·1 + 2 = 5, and the run return, release, take 2, return, release, take 3 (6 worker events)
dequeues job 3 second -/
example : ∃ s, run (init 1) [.submit 1 "a", .take 0, .submit 2 "b", .submit 3 ""] = some s ∧
    s.queue[1]? = some ⟨3, ""⟩ ∧ mu s 1 = 5 ∧
    (takenJobs s [.jobReturn 0 true, .release 0, .take 0, .jobReturn 0 false, .release 0, .take 0])[1]?
      = some ⟨3, ""⟩ := by
  decide +kernel

/-- **Jobs are independent.** (1) In a reachable state in which no job named `n` is queued,
running or unreleased, `Submit(n)` is accepted: the job is appended to the queue — no name is
ever stuck. (2) When the job of worker `w` ends — by returning nil, returning an error, or
**panicking** — the release step is enabled; after it the worker is alive and looking at the
queue again (its slot is not lost), the job's name is free, and a later `Submit` of that name is
accepted. -/
theorem C19_jobs_independent {m : Nat} {s : JM} (hr : Reachable m s) :
    (∀ n id, occ s n = 0 → ∃ s', step s (.submit id n) = some s' ∧ s'.queue = s.queue ++ [⟨id, n⟩]) ∧
    (∀ w j e, s.ws w = .running j → (e = .jobReturn w true ∨ e = .jobReturn w false ∨ e = .jobPanic w) →
      ∃ s1 s2, step s e = some s1 ∧ step s1 (.release w) = some s2 ∧
        s2.ws w = .idle ∧ s2.active = s.active ∧ s2.names j.name = false ∧
        ∀ id, ∃ s3, step s2 (.submit id j.name) = some s3 ∧ s3.queue = s2.queue ++ [⟨id, j.name⟩]) := by
  have hi := inv_reachable hr
  refine ⟨fun n id h0 => submit_free id (hi.free_of_occ h0), ?_⟩
  intro w j e hws he
  have hs1 : step s e = some { s with ws := upd s.ws w (.finishing j) } := by
    rcases he with rfl | rfl | rfl <;> simp only [step, hws]
  have hfree : (if j.name = "" then s.names else setName s.names j.name false) j.name = false := by
    by_cases hx : j.name = ""
    · rw [names_set, if_neg (fun h => h.2 hx), hx]; exact hi.noEmpty
    · rw [names_set, if_pos ⟨rfl, hx⟩]
  exact ⟨_, { s with names := if j.name = "" then s.names else setName s.names j.name false
                     ws := upd (upd s.ws w (.finishing j)) w .idle },
    hs1, by simp only [step, upd_same], upd_same, rfl, hfree, fun id => submit_free id hfree⟩

example : ∃ s, run (init 1) [.submit 1 "a", .take 0, .submit 9 "a", .jobPanic 0, .release 0,
      .submit 5 "a", .take 0] = some s ∧ s.ws 0 = .running ⟨5, "a"⟩ ∧ s.active = 1 ∧ s.queue = [] := by
  decide +kernel

/-- **Test CA first.** On a retry (`attempts > 0`) with a test CA configured that differs from
the CA, the first order goes to the test CA's directory and is not throttled by the internal
rate limiter. (It does so whether or not the test CA differs from the CA: `_hd` only mirrors
the property's wording.) -/
theorem C19_test_ca_first (i : IssueIn) (ha : i.attempts > 0) (ht : i.testCA ≠ "")
    (_hd : i.testCA ≠ i.ca) :
    (issue i).calls.head? = some { dir := i.testCA, throttled := false, usingTest := true } := by
  -- however `Issue` goes, its first call is `doIssue i i.attempts`
  rcases issue_cases i with ⟨_, h⟩ | ⟨_, _, h⟩ | ⟨_, _, h⟩ <;> rw [h] <;>
    exact congrArg some (doIssue_test i ha ht)

/-- the first attempt (and every order of a first attempt) goes to the production directory
and is throttled -/
theorem C19_first_attempt_prod (i : IssueIn) (ha : i.attempts = 0) :
    (issue i).calls = [{ dir := prodDir i, throttled := true, usingTest := usingTestCA i (prodDir i) }] := by
  have hc := congrArg (fun c => [c]) (ha ▸ doIssue_zero i)
  rcases issue_cases i with ⟨_, h⟩ | ⟨_, _, h⟩ | ⟨_, h2, _⟩
  · rw [h]; exact hc
  · rw [h]; exact hc
  · exact absurd h2.1 (by rw [ha]; exact Nat.lt_irrefl 0)

/-- non-vacuity: a first attempt with a scheme-less CA: one throttled order to "https://" ++ CA -/
example : (issue { attempts := 0, ca := "ca.example/dir", testCA := "https://stg.example/dir"
                   defaultCA := "", first := .err, second := .ok }).calls =
    [{ dir := "https://ca.example/dir", throttled := true, usingTest := false }] := by decide +kernel

/-- **Never a test certificate.** Whenever `Issue` returns a certificate, it was issued through
the production directory (`newBasicACMEClient`'s URL for `CA`) — or, in the one remaining case,
through the directory literally configured as `CA` (this is when `TestCA` and `CA` are the same
string, so that "the test CA" *is* the configured CA). For every input. -/
theorem C19_never_test_cert (i : IssueIn) (d : String) (h : (issue i).cert = some d) :
    d = prodDir i ∨ (i.testCA = i.ca ∧ d = i.ca) := by
  rcases issue_cases i with ⟨_, he⟩ | ⟨_, h2, he⟩ | ⟨_, _, he⟩
  · rw [he] at h
    cases h
  · -- the only order: at production, unless on a retry with a test CA, which then is the CA
    rw [he] at h
    rw [← Option.some.inj h]
    by_cases ha : i.attempts > 0
    · by_cases ht : i.testCA = ""
      · left; rw [doIssue_notest i ha ht]
      · right
        have heq : i.ca = i.testCA := Classical.byContradiction fun hne => h2 ⟨ha, ht, hne⟩
        rw [doIssue_test i ha ht]
        exact ⟨heq.symm, heq.symm⟩
    · left; rw [Nat.eq_zero_of_not_pos ha, doIssue_zero]
  · rw [he] at h
    left
    split at h
    · exact (Option.some.inj h).symm
    · cases h

/-- with a CA URL that carries its scheme, the returned certificate always comes from `CA` itself -/
theorem C19_never_test_cert_wf (i : IssueIn) (hs : hasScheme i.ca.toList = true) (hne : i.ca ≠ "")
    (d : String) (h : (issue i).cert = some d) : d = i.ca := by
  have hp : prodDir i = i.ca := by simp [prodDir, hne, hs]
  rcases C19_never_test_cert i d h with h | ⟨_, h⟩
  · rw [h, hp]
  · exact h

/-- non-vacuity for the hypothesis of `C19_never_test_cert_wf`, in the corner `TestCA = CA` -/
example : hasScheme "https://ca.example/dir".toList = true ∧
    (issue { attempts := 4, ca := "https://ca.example/dir", testCA := "https://ca.example/dir"
             defaultCA := "", first := .ok, second := .err }).cert = some "https://ca.example/dir" := by decide +kernel

example : issue { attempts := 1, ca := "https://ca.example/dir", testCA := "https://stg.example/dir"
                  defaultCA := "https://default.example/dir", first := .ok, second := .ok } =
    { calls := [{ dir := "https://stg.example/dir", throttled := false, usingTest := true },
                { dir := "https://ca.example/dir", throttled := true, usingTest := false }]
      cert := some "https://ca.example/dir", err := .none } := by decide +kernel

/-- **Error classes.** `Issue` returns a certificate exactly when it returns no error. The
error is marked non-retryable exactly when, on a retry, the test CA (different from the CA)
succeeded and the production CA then failed with something other than a 429; a 429 from the
production CA at that point — like any failure of the first order — stays retryable. -/
theorem C19_issue_errors (i : IssueIn) :
    ((issue i).cert.isSome = true ↔ (issue i).err = .none) ∧
    ((issue i).err = .noRetry ↔
      (i.attempts > 0 ∧ i.testCA ≠ "" ∧ i.ca ≠ i.testCA ∧ i.first = .ok ∧ i.second = .err)) ∧
    (i.first ≠ .ok → (issue i).err = .retryable ∧ (issue i).calls.length = 1) ∧
    (i.first = .ok → i.second = .rateLimited → (issue i).calls.length = 2 → (issue i).err = .retryable) := by
  rcases issue_cases i with ⟨hf, he⟩ | ⟨hf, h2, he⟩ | ⟨hf, h2, he⟩
  · rw [he]
    exact ⟨⟨Bool.noConfusion, ErrClass.noConfusion⟩, ⟨ErrClass.noConfusion, fun h => absurd h.2.2.2.1 hf⟩,
      fun _ => ⟨rfl, rfl⟩, fun h => absurd h hf⟩
  · rw [he]
    exact ⟨⟨fun _ => rfl, fun _ => rfl⟩, ⟨ErrClass.noConfusion, fun h => absurd ⟨h.1, h.2.1, h.2.2.1⟩ h2⟩,
      fun h => absurd hf h, fun _ _ h => by cases h⟩
  · rw [he]
    refine ⟨?_, ?_, fun h => absurd hf h, fun _ hs _ => by rw [hs]⟩
    · cases i.second with
      | ok => exact ⟨fun _ => rfl, fun _ => rfl⟩
      | err | rateLimited => exact ⟨Bool.noConfusion, ErrClass.noConfusion⟩
    · cases hs : i.second with
      | err => exact ⟨fun _ => ⟨h2.1, h2.2.1, h2.2.2, hf, rfl⟩, fun _ => rfl⟩
      | ok | rateLimited => exact ⟨ErrClass.noConfusion, fun h => DOut.noConfusion h.2.2.2.2⟩

/-- non-vacuity: production answers 429 after the test CA succeeded: retryable; any other
production failure: not retryable -/
example : (issue { attempts := 3, ca := "a.example/dir", testCA := "https://stg.example/dir"
                   defaultCA := "", first := .ok, second := .rateLimited }).err = .retryable ∧
          (issue { attempts := 3, ca := "a.example/dir", testCA := "https://stg.example/dir"
                   defaultCA := "", first := .ok, second := .err }).err = .noRetry := by decide +kernel

/-- what the retry loop does with it: a 429 from production keeps the loop going, the
non-retryable class stops it -/
example : ErrClass.toOutcome .retryable = .fail ∧ ErrClass.toOutcome .noRetry = .noRetry := ⟨rfl, rfl⟩

end CM.Async
