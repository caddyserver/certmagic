import CM.Proofs.Safe
/-!
# C11 — names sanitise to one safe path component; keys stay in their namespace

Every theorem quantifies over **every** string (list of Unicode scalars) and every
`Env` (Unicode lower-casing / white-space class); the three facts about `Env` that
idempotence needs are the explicit hypothesis `Env.Good`. The harness checks them of Go's
`strings.ToLower` and `unicode.IsSpace` over every scalar on each run; no `Env` is proved
`Good` in Lean.
-/
namespace CM.Safe

/-- every character of the output is in the safe alphabet `[0-9A-Za-z_@.-]` -/
theorem C11_alphabet (E : Env) (s : Str) : ∀ c ∈ safe E s, keep c = true :=
  fun _ hc => (mem_safe hc).1

/-- no path separator (either flavour) and no NUL in the output -/
theorem C11_no_separator (E : Env) (s : Str) :
    '/' ∉ safe E s ∧ '\\' ∉ safe E s ∧ Char.ofNat 0 ∉ safe E s :=
  ⟨safe_no_slash E s, not_mem_safe (by decide +kernel) E s, not_mem_safe (by decide +kernel) E s⟩

/-- the output does not contain `..` (hence is not `..`) -/
theorem C11_no_dotdot (E : Env) (s : Str) : ¬ dotdot <:+: safe E s := by
  rw [← hasDD_iff_infix, safe_noDD]
  nofun

/-- sanitising twice = sanitising once -/
theorem C11_idempotent (E : Env) (hE : E.Good) (s : Str) : safe E (safe E s) = safe E s :=
  safe_eq_self E hE (safe E s) (C11_alphabet E s) (safe_not_upper E hE s) (safe_noDD E s)

/-- every site key lies under the issuer's prefix, which lies under `certificates`;
its last component is the sanitised name plus the extension -/
theorem C11_key_in_namespace (E : Env) (ext : String) (hext : '/' ∉ ext.toList)
    (hlen : 3 ≤ ext.toList.length) (issuer domain : Str) :
    [prefixCerts] <+: certsPrefix E issuer ∧
    certsPrefix E issuer <+: certsSitePrefix E issuer domain ∧
    siteAsset E ext issuer domain = certsSitePrefix E issuer domain ++ [safe E domain ++ str ext] :=
  ⟨prefix_joinRaw (safe_no_slash E issuer) (safe_ne_dotdot E issuer),
   prefix_joinRaw (safe_no_slash E domain) (safe_ne_dotdot E domain),
   joinRaw_plain (plainComp_safe_append E domain hext hlen)⟩

/-- every file path derived from a site key stays under the storage root -/
theorem C11_path_under_root (E : Env) (ext : String) (hext : '/' ∉ ext.toList)
    (hlen : 3 ≤ ext.toList.length) (root : List Str) (issuer domain : Str) :
    root <+: filename root (siteAsset E ext issuer domain) ∧
    root ++ [prefixCerts] <+: filename root (siteAsset E ext issuer domain) := by
  rw [filename_plain _ _ (siteAsset_plain E ext hext hlen issuer domain)]
  obtain ⟨h1, h2, h3⟩ := C11_key_in_namespace E ext hext hlen issuer domain
  exact ⟨List.prefix_append _ _,
    (List.prefix_append_right_inj root).mpr (h1.trans (h2.trans (h3 ▸ List.prefix_append _ _)))⟩

/-- every lock file is a direct child of the locks directory -/
theorem C11_lock_in_lockdir (E : Env) (root : List Str) (name : Str) :
    lockFile E name = [str "locks", safe E name ++ str ".lock"] ∧
    filename root (lockFile E name) = root ++ [str "locks", safe E name ++ str ".lock"] := by
  have hp : plainComp (safe E name ++ str ".lock") :=
    plainComp_safe_append E name (by decide +kernel) (by decide +kernel)
  have h1 : lockFile E name = [str "locks", safe E name ++ str ".lock"] := joinRaw_plain hp
  refine ⟨h1, ?_⟩
  rw [h1]
  exact filename_plain root _ (List.forall_mem_cons.mpr
    ⟨plainComp_of_length (by decide +kernel) (by decide +kernel), List.forall_mem_singleton.mpr hp⟩)

/-! ### examples on `asciiEnv`: `./.`, whose dots the character filter joins, sanitises to the
empty string, and its site key stays under `certificates`; the replacements and lower-casing;
`..` formed across removed characters -/

/-- ASCII environment used by the examples (`Drv.C11.mkEnv` repeats its two bodies behind a
lookup in the per-line tables for the non-ASCII characters of the input: `mkEnv [] []`
computes the same functions) -/
def asciiEnv : Env where
  lower c := if isUpperA c then Char.ofNat (c.toNat + 32) else c
  isSpace c := c == ' ' || c == '\t' || c == '\n' || c == '\r' || c == Char.ofNat 11 || c == Char.ofNat 12

example : safe asciiEnv "./.".toList = [] := by decide +kernel
example : safe asciiEnv " *.Ex+ample.COM ".toList = "wildcard_.ex_plus_ample.com".toList := by decide +kernel
example : siteCert asciiEnv "./.".toList "./.".toList = [prefixCerts, ".crt".toList] := by decide +kernel
example : safe asciiEnv "a./.b/...c".toList = "ab.c".toList := by decide +kernel

end CM.Safe
