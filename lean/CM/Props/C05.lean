import CM.Proofs.Maintain
/-!
# C05 — maintenance renews what is due, once, and keeps serving valid certificates

All statements are about the executable model `CM/Model/Maintain.lean` (the definitions the
driver runs against the real code) and hold for **every** "due" predicate, every cache
content, every set of names (but see `hown` in `C05_adopt`, `C05_renew_once`) and every history;
the standing hypothesis `Inv s` (cache and index agree, certificate identities are coherent, at
most one job per job-manager name) is itself proved for every reachable state (`C05_invariant`).

`classify due s e` is the queue the scan under the read lock puts entry `e` on
(`.skip` = not selected: unmanaged, on-demand configuration, or not due).
-/
namespace CM.Maintain

variable (due : Int → Cert → Bool)

/-- every state reachable by any history of events satisfies the invariant -/
theorem C05_invariant (life : Int) (evs : List Ev) : Inv (run due (init life) evs) :=
  run_inv due evs _ (inv_init life)

/-- … in particular at most one job per job-manager name is ever queued or running -/
theorem C05_one_job_per_name (life : Int) (evs : List Ev) (n : Name) :
    (run due (init life) evs).jobs.countP (named n) ≤ 1 :=
  (C05_invariant due life evs).one n

/-- a loadable certificate is loaded and cached: managing never obtains and never fails then -/
theorem C05_manage_loads_first (r d : Bool) :
    manageDecision false .ok r d = .cacheOnly ∨ manageDecision false .ok r d = .cacheThenRenew ∨
      manageDecision false .ok r d = .cacheThenForce := by
  cases r <;> cases d <;> simp [manageDecision]

/-- … and when the stored certificate is usable (not due, not revoked) managing the name is
exactly "load it into the cache": no issuer call, no storage write, no job -/
theorem C05_manage_loads_usable (s : State) (k : Name) (a : Bool) (c : Cert)
    (hod : s.od = false) (hlock : lockHeld s k = false) (hmode : s.mode k = .ok)
    (ham : alreadyManaged s k = false) (hst : s.store k = .ok c)
    (hdue : due s.now c = false) (hrev : revokedNow s c = false) :
    manage due s k a false = ({ s with cache := s.cache.add ⟨c, true⟩ }, .ok) := by
  unfold manage
  simp [hod, hlock, hmode, ham, loadRes, hst, storedCert, hdue, hrev, manageDecision]

/-- a certificate is obtained only when there is none in storage -/
theorem C05_manage_obtains_only_if_absent (am : Bool) (l : LoadRes) (r d : Bool) :
    manageDecision am l r d = .obtainThenCache ↔ am = false ∧ l = .notexist := by
  fun_cases manageDecision am l r d <;> simp [*]

/-- a certificate is renewed only when the stored one is due, force-renewed only when revoked -/
theorem C05_manage_renews_only_if_due (am : Bool) (l : LoadRes) (r d : Bool) :
    (manageDecision am l r d = .cacheThenRenew ↔ am = false ∧ l = .ok ∧ r = false ∧ d = true) ∧
    (manageDecision am l r d = .cacheThenForce ↔ am = false ∧ l = .ok ∧ r = true) := by
  fun_cases manageDecision am l r d <;> simp [*]

/-- the code under the C01 lock reaches the issuer only when it has to: obtaining with nothing
in storage; renewing a stored bundle that is due (or unparseable), or forced -/
theorem C05_issuer_only_when_needed (s : State) (k : Name) (core : Core)
    (h : (attempt due s k core).2.log ≠ s.log) :
    (core = .obtain ∧ s.store k = .none) ∨
      (∃ force, core = .renew force ∧ s.store k ≠ .none ∧ (force = true ∨ storedDue due s.now (s.store k) = true)) := by
  rcases attempt_state due s k core with e | ⟨hn, _⟩
  · exact absurd (by rw [e]) h
  · exact (needIssue_true_iff due s k core).mp hn

/-- managing a name contacts the issuer only if storage has no bundle for it, or the stored
certificate is due or revoked -/
theorem C05_manage_issues_only_if_needed (s : State) (k : Name) (a f : Bool)
    (h : (manage due s k a f).1.log ≠ s.log) :
    s.store k = .none ∨ ∃ c, s.store k = .ok c ∧ (due s.now c = true ∨ revokedNow s c = true) := by
  rcases manage_log due s k a f rfl with e | hd | hd | hd
  · exact absurd e h
  · exact Or.inl (loadRes_spec ((C05_manage_obtains_only_if_absent _ _ _ _).mp hd).2)
  · have := (C05_manage_renews_only_if_due _ _ _ _).1.mp hd
    exact Or.inr ⟨_, loadRes_spec this.2.1, Or.inl this.2.2.2⟩
  · have := (C05_manage_renews_only_if_due _ _ _ _).2.mp hd
    exact Or.inr ⟨_, loadRes_spec this.2.1, Or.inr this.2.2⟩

/-- **untouched.** A cache entry the scan does not select (unmanaged, on-demand
configuration, or not due) is still there after the pass, in every index row it was in -/
theorem C05_untouched {s : State} (h : Inv s) (e : Entry) (he : e ∈ s.cache.entries)
    (hskip : classify due s e = .skip) :
    e ∈ (pass due s).cache.entries ∧ ∀ n, e.cert.id ∈ s.cache.index n → e.cert.id ∈ (pass due s).cache.index n := by
  have hk : e ∈ (pass due s).cache.entries := by
    refine exec_mem due s _ ?_ he
    rintro c (hc | hc | hc) hid
    · cases hskip.symm.trans (scan_queue_of_id due h.wf he .reload hc hid).2
    · cases hskip.symm.trans (scan_queue_of_id due h.wf he .renew hc hid).2
    · cases hskip.symm.trans (scan_queue_of_id due h.wf he .del hc hid).2
  exact ⟨hk, fun _ hn => h.wf.index_kept (pass_ext due h).inv.wf he hk hn⟩

/-- … and the pass calls the issuer only for first names of entries it put on the renew
queue (managed, not on-demand, due, stored version due or unreadable): never "for" an
untouched certificate -/
theorem C05_untouched_no_issuer_call (s : State) :
    ∃ l, (pass due s).log = s.log ++ l ∧ ∀ le ∈ l, le.inst = 0 ∧
      ∃ e ∈ s.cache.entries, classify due s e = .renew ∧ le.subj = e.cert.names.headD 0 :=
  pass_log due s

/-- a pass that selects nothing changes nothing (cache, storage, jobs, issuer log) -/
theorem C05_quiet_pass (s : State) (h : ∀ e ∈ s.cache.entries, classify due s e = .skip) : pass due s = s := by
  have hnone : ∀ q, q ≠ .skip → queued due s q s.cache.entries = [] := by
    intro q hq
    rw [List.eq_nil_iff_forall_not_mem]
    intro c hc
    obtain ⟨e, he, _, hcl⟩ := (mem_queued due).mp hc
    exact hq (by rw [← hcl, h e he])
  unfold pass
  rw [scan_eq, hnone .reload (by decide), hnone .renew (by decide), hnone .del (by decide)]
  rfl

/-- **adopt.** A due certificate whose stored version `v` is not due: after the pass `v` is in
the index row of each of its names, the old hash is in no row and no entry, storage still
holds `v`, and the pass made no issuer call for that subject. `hown` (the certificate's subject is
its first name) is what excludes that a later reload brings the old hash back (`Inv.stored_ne`) -/
theorem C05_adopt {s : State} (h : Inv s) (e : Entry) (he : e ∈ s.cache.entries) (k : Name)
    (rest : List Name) (hn : e.cert.names = k :: rest) (hcl : classify due s e = .reload)
    (v : Cert) (hv : s.store k = .ok v) (hown : e.cert.id.name = k) :
    (∀ n ∈ v.names, v.id ∈ (pass due s).cache.index n) ∧
      (∀ n, e.cert.id ∉ (pass due s).cache.index n) ∧ (∀ e' ∈ (pass due s).cache.entries, e'.cert.id ≠ e.cert.id) ∧
      (pass due s).log.filter (fun le => le.subj == k) = s.log.filter (fun le => le.subj == k) ∧
      (pass due s).store k = .ok v := by
  subst hown
  obtain ⟨-, -, -, k', rest', v', hn', hv', hdv⟩ := classify_spec due hcl
  rw [hn] at hn'; cases hn'
  rw [hv] at hv'; cases hv'
  have hvi := h.reg.store _ v hv
  -- the stored version is not due, every queued certificate is: it is none of them
  have hq : ∀ c, c ∈ (scan due s).reload ∨ c ∈ (scan due s).renew → v.id ≠ c.id := by
    intro c hc hid
    rw [h.reg.fn v hvi c (hc.elim (scan_issued due h .reload) (scan_issued due h .renew)) hid, scan_due due hc] at hdv
    cases hdv
  have hvx := hq e.cert (Or.inl (scan_reload_mem due he hcl))
  obtain ⟨t, l₂, hp, hl₂, ht, hsame⟩ := pass_split_reload due h e he _ hcl
  have hst : t.store e.cert.id.name = .ok v := hsame.store.trans hv
  have hu : reloadOld t e.cert = { t with cache := t.cache.replace e.cert ⟨v, true⟩ } := by
    unfold reloadOld; rw [hn]; exact reload_ok hst _
  have hext : Ext s (reloadOld t e.cert) := ht.trans (reload_ext ht.inv _ _ (ht.sub _ (h.reg.cache e he)))
  have hsame' := hsame.trans (reloadOld_sameAt _ t e.cert)
  obtain ⟨hE, hS, hA⟩ := rest_adopted due h hext (x := e.cert.id) (hsame'.store.trans hv) hvx
    (adopted_replace hext.inv (congrArg State.cache hu) (hext.sub v hvi) hvx) hq hl₂
    (fun c hc => ⟨hc, fun hk => by
      -- the bundle under the first name of a certificate on the renew queue is due, `v` is not
      have := scan_renew_storedDue due hc
      rw [hk, hv] at this; cases hdv.symm.trans this⟩)
  rw [hp]
  exact ⟨hA.indexed, hE.inv.wf.not_mem_index hA.absent, hA.absent, (hsame'.trans hS).log,
    (hsame'.trans hS).store.trans hv⟩

/-- the reload-queue classification is exactly "managed, not on-demand, due, stored version not due" -/
theorem C05_adopt_condition {s : State} {e : Entry} (h : classify due s e = .reload) :
    e.managed = true ∧ s.od = false ∧ due s.now e.cert = true ∧
      ∃ k rest v, e.cert.names = k :: rest ∧ s.store k = .ok v ∧ due s.now v = false :=
  classify_spec due h

/-- **renew once.** A due certificate whose stored version is due too, issuer working, no job
for its name yet, the only queued certificate with that first name: the pass makes exactly
one issuer call for the subject — a successful one —, storage holds the new version, the new
version is in the index row of its name, the old hash is gone, and the job has finished
(`hown` as in `C05_adopt`) -/
theorem C05_renew_once {s : State} (h : Inv s) (e : Entry) (he : e ∈ s.cache.entries) (k : Name)
    (rest : List Name) (hn : e.cert.names = k :: rest) (hcl : classify due s e = .renew)
    (hst : s.store k ≠ .none) (hmode : s.mode k = .ok) (hjobs : s.jobs.countP (named k) = 0)
    (honly : ∀ e' ∈ s.cache.entries, classify due s e' = .renew → e'.cert.names.headD 0 = k → e' = e)
    (hown : e.cert.id.name = k) :
    (pass due s).store k = .ok (newCert s k) ∧
      (pass due s).log.filter (fun le => le.subj == k) =
        s.log.filter (fun le => le.subj == k) ++ [⟨0, k, .ok (s.ver k + 1)⟩] ∧
      (newCert s k).id ∈ (pass due s).cache.index k ∧
      (∀ n, e.cert.id ∉ (pass due s).cache.index n) ∧
      (pass due s).jobs.countP (named k) = 0 := by
  subst hown
  obtain ⟨-, -, -, k', rest', hn', hsd⟩ := classify_spec due hcl
  rw [hn] at hn'; cases hn'
  obtain ⟨t, l₂, hp, hl₂, ht, hsame, -⟩ := pass_split due h e he _ hcl honly
  have hnc : newCert t e.cert.id.name = newCert s e.cert.id.name := by
    unfold newCert; rw [hsame.ver, hsame.env.now, hsame.env.life]
  -- up to the job of `e` nothing about its subject has changed, so the job runs, issues and reloads
  obtain ⟨hst', hlog, hc, hj⟩ := submitPass_renews due t e.cert _ (by rw [hn]; rfl) (hsame.jobs.trans hjobs)
    (by rw [hsame.store]; exact hst) (by rw [hsame.env.now, hsame.store]; exact hsd) (by rw [hsame.env.mode]; exact hmode)
  rw [hnc] at hst' hc
  have hu : Ext s (submitPass due t e.cert) :=
    ht.trans (submitPass_ext due ht.inv _ (ht.sub _ (h.reg.cache e he)))
  -- the new version is none of the certificates there were
  have hfresh := h.reg.fresh e.cert.id.name
  have hvx := (hfresh e.cert (h.reg.cache e he)).symm
  obtain ⟨hE, hS, hA⟩ := rest_adopted due h hu (x := e.cert.id) hst' hvx
    (adopted_replace hu.inv hc (hu.inv.reg.store _ _ hst') hvx)
    (fun c hc => (hfresh c (hc.elim (scan_issued due h .reload) (scan_issued due h .renew))).symm)
    (List.forall_mem_nil _) (fun c hc => ⟨(hl₂ c hc).1, (hl₂ c hc).2.2⟩)
  rw [hp]
  refine ⟨hS.store.trans hst', hS.log.trans ?_, hA.indexed _ (List.mem_singleton.mpr rfl),
    hE.inv.wf.not_mem_index hA.absent, by rw [hS.jobs, hj, hsame.jobs]; exact hjobs⟩
  unfold logOf
  rw [hlog, List.filter_append, hsame.ver]
  exact congr (congrArg _ hsame.log) (List.filter_cons_of_pos (beq_self_eq_true _))

/-- … **whatever the number of overlapping passes**: while a job named `k` is queued or
running (blocked in the issuer, or waiting to retry), any number of further passes leaves
exactly that job in the table and makes no issuer call for `k` -/
theorem C05_renew_once_overlap {s : State} (h : Inv s) (k : Name) (hjob : 0 < s.jobs.countP (named k))
    (n : Nat) :
    (passN due n s).jobs.countP (named k) = 1 ∧
      (passN due n s).log.filter (fun le => le.subj == k) = s.log.filter (fun le => le.subj == k) := by
  have hs := passN_overlap due n s k hjob
  have := h.one k
  exact ⟨by rw [hs.jobs]; omega, hs.log⟩

/-- **failure keeps.** A job that does not end well (issuer refused; issuer unavailable, be it
with retries to come or at the end of the retry window; or still blocked) leaves cache and
index exactly as they were — unless the configuration is on-demand (pass job) or the
certificate was revoked (forced renewal) -/
theorem C05_failure_keeps (s : State) (j : Job) (r : Res) (hr : r ≠ .done)
    (hod : ∀ old, j.kind = .pass old → s.od = false) (hforce : ∀ c, j.kind ≠ .mforce c) :
    (settle s j r).cache = s.cache :=
  settle_fail_cache s j r hr hod hforce

/-- … for a whole pass: a due certificate whose issuer does not deliver is still in the cache
and in all its index rows after the pass -/
theorem C05_failure_keeps_pass {s : State} (h : Inv s) (e : Entry) (he : e ∈ s.cache.entries) (k : Name)
    (rest : List Name) (hn : e.cert.names = k :: rest) (hcl : classify due s e = .renew)
    (hmode : s.mode k ≠ .ok)
    (honly : ∀ e' ∈ s.cache.entries, classify due s e' = .renew → e'.cert.names.headD 0 = k → e' = e) :
    e ∈ (pass due s).cache.entries ∧ ∀ n, e.cert.id ∈ s.cache.index n → e.cert.id ∈ (pass due s).cache.index n := by
  obtain ⟨_, hod, _, k', rest', hn', hsd⟩ := classify_spec due hcl
  rw [hn] at hn'; cases hn'
  have hhead : e.cert.names.headD 0 = k := by rw [hn]; rfl
  obtain ⟨t, l₂, hpass, hl₂, _, hat, hkeep⟩ := pass_split due h e he k hcl honly
  have hk : e ∈ (pass due s).cache.entries := by
    rw [hpass]
    refine exec_mem due _ ⟨[], l₂, (scan due s).del⟩ ?_ ?_
    · rintro c (hc | hc | hc)
      · cases hc
      · exact (hl₂ c hc).2.1
      · intro hid; cases hcl.symm.trans (scan_queue_of_id due h.wf he .del hc hid).2
    · rw [submitPass_fails due t e.cert k hhead (by rw [hat.env.od]; exact hod)
        (by rw [hat.env.mode]; exact hmode) (by rw [hat.store, hat.env.now]; exact hsd)]
      exact hkeep
  exact ⟨hk, fun _ hn => h.wf.index_kept (pass_ext due h).inv.wf he hk hn⟩

/-- a revoked certificate is taken out of the cache only when its replacement failed; when
the forced renewal succeeded it is replaced by what storage then holds -/
theorem C05_revoked_removed_only_on_failure (s : State) (j : Job) (c : Cert) (hk : j.kind = .mforce c) :
    (settle s j .hardErr).cache = s.cache.remove c ∧
      (∀ w, s.store j.subj = .ok w → (settle s j .done).cache = s.cache.replace c ⟨w, true⟩) := by
  constructor
  · show (finishFail s j).cache = _
    unfold finishFail; rw [hk]
  · intro w hw
    show (finishOk s j).cache = _
    unfold finishOk; rw [hk]
    exact congrArg State.cache (reload_ok hw c)

/-- what `GetCertificate` serves when every hash in the name's row is `v` -/
theorem C05_served_of_row (now : Int) (c : Cache) (n : Name) (v : CertId)
    (hall : ∀ e ∈ c.row n, e.cert.id = v) (hne : c.row n ≠ []) : served now c n = some v := by
  unfold served
  rcases select_cases now (c.row n) with ⟨_, h⟩ | ⟨x, hx, h⟩
  · exact absurd h hne
  · rw [h, ← hall x hx]; rfl

/-! ### non-vacuity: concrete histories satisfying the hypotheses above -/

/-- "due" = in the last third of the validity -/
def dueEx (now : Int) (c : Cert) : Bool := decide (3 * (c.na - now) < c.na - c.nb)

/-- names 0 and 1 managed at time 0 (lifetime 90), an unmanaged short-lived certificate for
name 2; at time 70 another instance renews name 1 -/
def exS : State :=
  run dueEx (init 90) [.manage 0 false false, .manage 1 true false, .unm 2 5, .adv 70, .oren 1]

def exE0 : Entry := ⟨⟨⟨0, 1⟩, [0], 0, 90⟩, true⟩
def exE1 : Entry := ⟨⟨⟨1, 1⟩, [1], 0, 90⟩, true⟩
def exU : Entry := ⟨⟨⟨2, 1⟩, [2], 0, 5⟩, false⟩
def exV1 : Cert := ⟨⟨1, 2⟩, [1], 70, 160⟩

example : Inv exS := C05_invariant dueEx 90 _
example : exS.cache.entries = [exE0, exE1, exU] := by decide +kernel
example : classify dueEx exS exE0 = .renew ∧ classify dueEx exS exE1 = .reload ∧ classify dueEx exS exU = .skip := by
  decide +kernel
example : exS.store 1 = .ok exV1 ∧ dueEx exS.now exV1 = false ∧ dueEx exS.now exE1.cert = true := by decide +kernel

-- C05_untouched: the expired unmanaged certificate stays
example : exU ∈ (pass dueEx exS).cache.entries :=
  (C05_untouched dueEx (C05_invariant dueEx 90 _) exU (by decide +kernel) (by decide +kernel)).1

-- C05_adopt: name 1 is served by the version the other instance stored, without an issuer call
example : exV1.id ∈ (pass dueEx exS).cache.index 1 ∧ exE1.cert.id ∉ (pass dueEx exS).cache.index 1 :=
  have h := C05_adopt dueEx (C05_invariant dueEx 90 _) exE1 (by decide +kernel) 1 [] rfl (by decide +kernel) exV1 (by decide +kernel) rfl
  ⟨h.1 1 (by decide +kernel), h.2.1 1⟩

-- C05_renew_once: name 0 is renewed with one successful issuer call
example : (pass dueEx exS).store 0 = .ok (newCert exS 0) :=
  (C05_renew_once dueEx (C05_invariant dueEx 90 _) exE0 (by decide +kernel) 0 [] rfl (by decide +kernel) (by decide +kernel) (by decide +kernel)
    (by decide +kernel) (by decide +kernel) rfl).1

example : served (pass dueEx exS).now (pass dueEx exS).cache 0 = some ⟨0, 2⟩ ∧
    served (pass dueEx exS).now (pass dueEx exS).cache 1 = some ⟨1, 2⟩ ∧
    served (pass dueEx exS).now (pass dueEx exS).cache 2 = some ⟨2, 1⟩ := by decide +kernel

/-- the renewal of name 0 hangs inside the issuer -/
def exH : State := run dueEx (init 90) [.manage 0 false false, .adv 70, .mode 0 .hold, .pass]

example : 0 < exH.jobs.countP (named 0) := by decide +kernel
example : (passN dueEx 5 exH).jobs.countP (named 0) = 1 :=
  (C05_renew_once_overlap dueEx (C05_invariant dueEx 90 _) 0 (by decide +kernel) 5).1
example : ((passN dueEx 5 exH).log.filter (fun le => le.subj == 0)).length = 2 := by decide +kernel  -- obtain, then the one pending call

/-- the issuer refuses name 0 -/
def exF : State := run dueEx (init 90) [.manage 0 false false, .adv 70, .mode 0 .hard]

example : exE0 ∈ (pass dueEx exF).cache.entries :=
  (C05_failure_keeps_pass dueEx (C05_invariant dueEx 90 _) exE0 (by decide +kernel) 0 [] rfl (by decide +kernel) (by decide +kernel)
    (by decide +kernel)).1
example : (pass dueEx exF).log.length = exF.log.length + 1 := by decide +kernel   -- it did try, once

-- C05_manage_loads_usable: a fresh instance manages name 1 after the other instance stored it
example : (manage dueEx { exS with cache := Cache.empty } 1 false false).1.log = exS.log := by
  rw [C05_manage_loads_usable dueEx _ 1 false exV1 (by decide +kernel) (by decide +kernel) (by decide +kernel) (by decide +kernel) (by decide +kernel)
    (by decide +kernel) (by decide +kernel)]

-- C05_quiet_pass: at time 10 nothing is selected
example : ∀ e ∈ (run dueEx (init 90) [.manage 0 false false, .adv 10]).cache.entries,
    classify dueEx (run dueEx (init 90) [.manage 0 false false, .adv 10]) e = .skip := by decide +kernel

-- with the C04 decision as the predicate: a 90-day certificate is not due at day 60, due one second later
example : dueC04 (60 * 86400) ⟨⟨0, 1⟩, [0], 0, 90 * 86400⟩ = false ∧
    dueC04 (60 * 86400 + 1) ⟨⟨0, 1⟩, [0], 0, 90 * 86400⟩ = true := by decide +kernel

end CM.Maintain
