import CM.Proofs.RateLimit
/-!
# C17 — the rate limiter never admits more than N events per window

Theorems about **every** run of the model `CM.RateLimit.step` (ratelimiter.go: `loop`,
`permit`, `Wait`, `Allow`, `SetMaxEvents`, `SetWindow`, `Stop`) — any number of waiters, any
arrival pattern, any interleaving of reconfigurations with the steps of the scheduling
goroutine, any delay between a hand-off and its record.

`s.adm` is the list of admission (ticket hand-off) instants since the last effective
change of configuration, newest first; `s.ring.length` is the limit `N`; `s.W` the window.
"After the limit or the window has been changed" is read as in DESIGN.md §9: the bound is
claimed for the admissions of a period of constant configuration, including the one
admission that was scheduled before the change and completes after it.
-/
namespace CM.RateLimit
open Abs

/-- In every reachable state the cursor is inside the ring, the newest `min(N, k)` slots
(read from the cursor, oldest first) hold the newest `min(N, k)` of the `k` record instants
made since the last configuration change, in order — whatever the ring held at the change —, and no
slot lies in the future. -/
theorem C17_ring_inv {s : St} (h : Reachable s) :
    CurOK s.ring s.cursor ∧
    (∀ i t, s.recs[i]? = some t → i < s.ring.length →
        (view s.ring s.cursor)[s.ring.length - 1 - i]? = some (some t)) ∧
    (∀ t, some t ∈ s.ring → t ≤ s.now) := by
  have hi := Inv.of_reachable h
  refine ⟨hi.cur, ?_, hi.p.rpast⟩
  intro i t ht hlt
  have := hi.a.view i (Nat.lt_of_lt_of_eq hlt (view_length _ _).symm) (List.getElem?_eq_some_iff.mp ht).1
  simp only [abs, view_length] at this
  rw [this, ht]

/-- A limiter whose limit was never changed (any number of `SetWindow`s): the slots not yet
overwritten — the first `N - k` of the view after `k` records in all — are still zero
("zeros first"); with `C17_ring_inv` this fixes the whole ring. -/
theorem C17_ring_zeros_first {N W T : Nat} (hv : ¬ (N = 0 ∧ W ≠ 0)) (es : List Ev) (s : St)
    (hr : run (init N W T) es = some s) (hns : ∀ e ∈ es, ∀ n, e ≠ Ev.setMax n) :
    s.ring.length = N ∧ ∀ j, j + s.nrec < N → (view s.ring s.cursor)[j]? = some none :=
  zinv_run es (Inv.of_init ⟨N, W, T, hv, rfl⟩).cur (zinv_init N W T) hr hns

/-- **Headline.** In every reachable state — after any history of waiting, cancelling,
`SetMaxEvents` and `SetWindow` — any `N + 1` consecutive admissions of the current period of
constant configuration span at least `W`. -/
theorem C17_bound {s : St} (h : Reachable s) :
    ∀ (i x y : Nat), s.adm[i]? = some x → s.adm[i + s.ring.length]? = some y → y + s.W ≤ x :=
  bound_of_inv (Inv.of_reachable h)

/-- **Headline, on histories.** The executable specification `boundOK` — the fold of `checkAdm`,
the function the driver evaluates on the admission instants of the IMPLEMENTATION — accepts what an
observer sees of any run of the model from `NewRateLimiter(N, W)`: in every period of
constant configuration, any `N + 1` consecutive admissions span at least `W`. -/
theorem C17_bound_trace {s0 : St} (h0 : Init s0) (es : List Ev) (s : St) (hr : run s0 es = some s) :
    boundOK s0.ring.length s0.W [] (observe s0 es) = true := by
  have := boundOK_run es (Inv.of_init h0) hr
  -- `s0.adm` is `[]` by computation once `s0` is an `init N W T`
  obtain ⟨N, W, T, _, rfl⟩ := h0
  exact this

/-- **The statement, literally.** In every reachable state, every interval `[a, a + W)`
contains at most `N` of the admissions of the current period of constant configuration. -/
theorem C17_window_count {s : St} (h : Reachable s) (a : Nat) :
    (s.adm.filter (fun x => decide (a ≤ x ∧ x < a + s.W))).length ≤ s.ring.length :=
  count_window (Inv.of_reachable h).p.sorted (C17_bound h) a

/-- the instant written by a `record` is never earlier than the hand-off it belongs to
(the code calls `time.Now()` after the ticket was received) — the reason the ring
under-approximates nothing. -/
theorem C17_record_after_handoff {s : St} (h : Reachable s) (hp : pend s.phase = 0) :
    ∀ (i x y : Nat), s.adm[i]? = some x → s.recs[i]? = some y → x ≤ y := by
  intro i x y hx hy
  have hi := (Inv.of_reachable h).a
  have hc : counted (abs s) = s.adm := by
    apply counted_eq_adm
    show s.phase ≠ Phase.recording true
    intro h'; rw [h'] at hp; cases hp
  exact hi.pairE i x y (by rw [hc]; exact hx) hy

/-- A waiter that returned `context.Canceled` never received a ticket; records correspond
one-to-one to hand-offs (`nrec` records for the first `nrec` hand-offs), so none is
attributed to it; cancelling touches nothing but the waiter itself (no slot, no time), and
afterwards no ticket can go to that waiter. -/
theorem C17_cancel_no_slot {s : St} (h : Reachable s) (w : Nat) :
    (s.ws w = .cancelled → w ∉ s.got) ∧
    s.nrec ≤ s.got.length ∧
    (∀ s', step s (.cancel w) = some s' →
        s'.ring = s.ring ∧ s'.cursor = s.cursor ∧ s'.adm = s.adm ∧ s'.got = s.got ∧
        s'.nrec = s.nrec ∧ s'.phase = s.phase ∧ s'.now = s.now ∧ s'.ws w = .cancelled) ∧
    (s.ws w = .cancelled → step s (.handoff w) = none ∧ step s (.allow w) = none ∧
        step s (.call w) = none) := by
  have hi := (Inv.of_reachable h).w
  refine ⟨fun hc hg => ?_, Nat.le.intro hi.nrecI, fun s' hs => ?_, fun hc => ?_⟩
  · have := (hi.gotI w).mp hg
    rw [hc] at this; cases this
  · unfold step at hs
    split at hs <;> cases hs
    exact ⟨rfl, rfl, rfl, rfl, rfl, rfl, rfl, setW_same _ _ _⟩
  · -- each of the three events tests the waiter's state first
    have hidle : s.ws w ≠ .idle := by rw [hc]; nofun
    refine ⟨?_, if_neg hidle, if_neg hidle⟩
    unfold step
    split
    · exact if_neg (by rw [hc]; nofun)
    · rfl

/-- With a zero window an iteration that read the configuration never sleeps: its timer
is due at once (`fire` is enabled in the very state `compute` produced, and stays so). -/
theorem C17_zero_window {s : St} (h : Reachable s) (hW : s.W = 0) (t : Nat)
    (hp : s.phase = .sleeping t true) : t ≤ s.now ∧ (step s .fire).isSome = true := by
  have hle : t ≤ s.now := by
    have := (Inv.of_reachable h).p.slpW t hp
    rw [hW] at this; exact this
  refine ⟨hle, ?_⟩
  dsimp only [step]; rw [hp]
  exact congrArg Option.isSome (if_pos hle)

/-- … and with an empty ring (`maxEvents = 0`, limiting disabled) `compute` goes straight to
offering the ticket; the loop's `panic("invalid configuration")` is unreachable. -/
theorem C17_no_panic {s : St} (h : Reachable s) (h0 : s.ring.length = 0) :
    s.W = 0 ∧ (s.phase = .idle → (step s .compute).map (·.phase) = some (.offering true)) := by
  have hz := (Inv.of_reachable h).a.zero
  have hW : s.W = 0 := hz (view_eq_nil.mpr (List.eq_nil_of_length_eq_zero h0))
  refine ⟨hW, ?_⟩
  intro hp
  dsimp only [step]; simp [hp, h0, hW]

/-- The two loops of `SetMaxEvents(n)` (fast-forward, copy until full or "come full circle")
install — with cursor 0 — the newest `n` timestamps in their order when shrinking, and all
timestamps followed by free (zero) slots when growing. -/
theorem C17_resize_keeps_newest {ring : List (Option Nat)} {cursor : Nat} (hc : CurOK ring cursor) (n : Nat) :
    resize ring cursor n =
      (if n ≤ ring.length then (view ring cursor).drop (ring.length - n)
       else view ring cursor ++ List.replicate (n - ring.length) none) ∧
    (resize ring cursor n).length = n := by
  refine ⟨?_, resize_length n⟩
  rw [resize_eq_spec hc]
  unfold resizeSpec
  rw [view_length]

/-- in a reachable state, therefore: after an effective `setMax n` the view is the old
view's newest `n` entries (or all of them plus free slots) -/
theorem C17_setMax_view {s s' : St} (h : Reachable s) (n : Nat) (hs : step s (.setMax n) = some s')
    (hne : n ≠ s.ring.length) :
    view s'.ring s'.cursor = resizeSpec (view s.ring s.cursor) n := by
  have hc := (Inv.of_reachable h).cur
  dsimp only [step] at hs
  rw [if_neg hne] at hs
  split at hs
  · cases hs
  · cases hs
    rw [view_zero, resize_eq_spec hc]

/-- `SetWindow` — accepted or refused, effective or not — leaves the remembered admissions
alone: the ring, the cursor and the record of admissions are those of before (the driver's
rule `window-change-forgot-admissions` is this statement on the implementation's sequence
query, `SetWindow`, query) -/
theorem C17_setWindow_keeps_ring {s s' : St} (w : Nat) (hs : step s (.setWindow w) = some s') :
    s'.ring = s.ring ∧ s'.cursor = s.cursor ∧ s'.got = s.got := by
  dsimp only [step] at hs
  split at hs
  · cases hs
  · split at hs <;> (cases hs; exact ⟨rfl, rfl, rfl⟩)

/-! ### non-vacuity: concrete runs that exercise the hypotheses -/

/-- N = 2, W = 10: two admissions at 0, the third must wait until 10 -/
def exRun : List Ev :=
  [.compute, .fire, .call 0, .call 1, .call 2, .handoff 0, .record, .compute, .fire, .handoff 1,
   .record, .compute, .tick 10, .fire, .handoff 2]

example : (run (init 2 10 0) exRun).map (·.adm) = some [10, 0, 0] := by decide +kernel
example : (run (init 2 10 0) exRun).map (fun s => (s.ring, s.cursor)) = some ([some 0, some 0], 0) := by decide +kernel
example : Reachable ((run (init 2 10 0) exRun).get (by decide)) :=
  ⟨init 2 10 0, exRun, ⟨2, 10, 0, by decide, rfl⟩, by simp⟩
/-- the third admission is NOT possible earlier: at 9 the timer has not fired -/
example : run (init 2 10 0) [.compute, .fire, .call 0, .call 1, .call 2, .handoff 0, .record, .compute,
    .fire, .handoff 1, .record, .compute, .tick 9, .fire] = none := by decide +kernel
/-- what the observer sees, and that the executable specification can say no -/
example : boundOK 2 10 [] (observe (init 2 10 0) exRun) = true := by decide +kernel
example : (observe (init 2 10 0) exRun).length = 3 := by decide +kernel
example : boundOK 2 10 [] [.adm 0, .adm 0, .adm 5] = false := by decide +kernel
example : boundOK 2 10 [] [.adm 0, .adm 0, .cfg 3 10, .adm 5] = true := by decide +kernel
/-- a reconfiguration in mid-flight: `SetMaxEvents(1)` + `SetWindow(5)` while the third waiter sleeps -/
example : (run (init 2 10 0) [.compute, .fire, .call 0, .call 1, .call 2, .call 3, .handoff 0, .record,
    .compute, .fire, .handoff 1, .record, .compute, .tick 3, .setMax 1, .setWindow 5, .tick 7, .fire,
    .handoff 2, .record, .compute, .tick 5, .fire, .handoff 3]).map (fun s => (s.adm, s.ring)) =
    some ([15, 10], [some 10]) := by decide +kernel
/-- cancellation: waiter 1 cancels while waiting; it is not in `got` and the ring is untouched -/
example : (run (init 1 10 0) [.compute, .fire, .call 0, .call 1, .handoff 0, .record, .compute, .tick 4,
    .cancel 1]).map (fun s => (s.got, s.ring, s.ws 1)) = some ([0], [some 0], .cancelled) := by decide +kernel
/-- zero window: a fresh sleeping phase with `t ≤ now` exists -/
example : (run (init 1 0 7) [.compute, .fire, .call 0, .handoff 0, .record, .compute]).map (·.phase) =
    some (.sleeping 7 true) := by decide +kernel
/-- disabled limiter (N = 0, W = 0) -/
example : (run (init 0 0 7) [.compute, .call 0, .handoff 0, .record, .compute]).map (·.phase) =
    some (.offering true) := by decide +kernel
/-- shrinking keeps the newest, growing keeps all and adds free slots -/
example : resize [some 5, some 6, some 3, some 4] 2 2 = [some 5, some 6] := by decide +kernel
example : resize [some 5, some 6, some 3, some 4] 2 6 = [some 3, some 4, some 5, some 6, none, none] := by decide +kernel
example : CurOK [some 5, some 6, some 3, some 4] 2 := Or.inl (by decide)

end CM.RateLimit
