import CM.Proofs.FileLock
import CM.Proofs.FileLockSolo
import CM.Props.C11
/-!
# C08 — file locks exclude each other while holders live and recover after a crash

Property theorems only. Model: `CM/Model/FileLock.lean` (timed LTS of one lock file, any
number of actors, every file-system call a step; the code with the repairs D8, D18, D21 of
/verif/patches applied), `CM/Model/FileLockSim.lean` (schedulers built on its `step`).
Helper lemmas: `CM/Proofs/FileLockStep.lean`, `CM/Proofs/FileLock.lean`, `CM/Proofs/FileLockSolo.lean`.

The scheduler/file-system assumptions are explicit, named hypotheses on the transitions of
a run (`HTimely`, `HLive`, `HEmpty` in the model file) — C08 is *partial* in that respect
(DESIGN §10): they are exercised by the harness, not proved.
-/
namespace CM.FileLock

/-- no assumption on the run -/
abbrev Any : State → Ev → State → Prop := fun _ _ _ => True

/-- **A live, timely holder never looks stale.** In every reachable state — any schedule,
any number of actors, zombies' heartbeats included, whatever file was there initially —
if actor `p` holds inode `i`, that inode still has the lock file's name and carries a
stamp, and `p`'s last completed heartbeat is at most `H + J` ago with `H + J < factor·H`
(`J < H` for the code's factor 2), then `fileLockIsStale` is false of what a contender
reads now: no read of a live holder's file observes `now − updated > 2H`. -/
theorem C08_fresh_never_stale (c : Params) (J t0 : Nat) (f0 : Option Content) {A : State → Ev → State → Prop}
    {s : State} (h : Reach c A (initState t0 f0) s) (hJ : c.H + J < c.factor * c.H)
    (p i cp cr u : Nat) (hp : s.pc p = .holding i cp) (hf : s.file = some (i, .stamp cr u))
    (ht : s.now ≤ s.beat p + c.H + J) : stale c s.now cr u = false :=
  not_stale_of_fresh hJ ((inv_reach h).fresh p i cp cr u hp hf) ht

/-- the code's factor 2 tolerates every lateness below a full period -/
theorem C08_jitter_tolerance (J : Nat) (hJ : J < codeParams.H) :
    codeParams.H + J < codeParams.factor * codeParams.H := by
  simp only [codeParams] at hJ ⊢; omega

/-- **Mutual exclusion while holders live.** Start with the lock file absent. In every run
that satisfies H_live (nobody dies between its create and its Unlock), H_timely (every
holder's last heartbeat is at most `H + J` ago, `H + J < factor·H`) and H_empty (no
contender reads a live owner's file as empty/undecodable `N` times in a row), for any
number of actors and any interleaving of their file-system calls: at most one actor is
between its successful create and its Unlock — in particular at most one is `holding`. -/
theorem C08_mutex (c : Params) (J t0 : Nat) (hJ : c.H + J < c.factor * c.H) {s : State}
    (h : Reach c (Assumed c J) (initState t0 none) s) (p q : Nat) (hp : owner s p) (hq : owner s q) : p = q := by
  obtain ⟨I, M⟩ := minv_reach hJ h
  obtain ⟨i, hi⟩ := hp
  obtain ⟨j, hj⟩ := hq
  exact M.unique I hi hj

theorem C08_mutex_holding (c : Params) (J t0 : Nat) (hJ : c.H + J < c.factor * c.H) {s : State}
    (h : Reach c (Assumed c J) (initState t0 none) s) (p q i j cp cq : Nat)
    (hp : s.pc p = .holding i cp) (hq : s.pc q = .holding j cq) : p = q :=
  C08_mutex c J t0 hJ h p q ⟨i, own_of_holding hp⟩ ⟨j, own_of_holding hq⟩

/-- **A waiter acquires only after the holder has released.** Under the same assumptions,
at the step at which an actor's create succeeds nobody else is between create and Unlock:
every earlier holder's `unlock` step has already happened. Moreover while somebody owns
the lock, the file is never removed by anybody else (no actor is ever `removing`). -/
theorem C08_acquire_after_release (c : Params) (J t0 : Nat) (hJ : c.H + J < c.factor * c.H) {s s' : State}
    (h : Reach c (Assumed c J) (initState t0 none) s) (p i : Nat)
    (hs : step c s (.tryCreate p) = some s') (hc : s'.pc p = .created i) :
    (∀ q, ¬ owner s q) ∧ (∀ q e, s.pc q ≠ .removing e) := by
  obtain ⟨_, M⟩ := minv_reach hJ h
  refine ⟨?_, M.no_remover⟩
  rintro q ⟨j, hj⟩
  have hfile := (M.owned_iff j).mp ⟨q, hj⟩
  -- the create found the name free
  cases Effect.of_step hs with
  | move _ hm => cases hm; cases upd_same.symm.trans hc
  | create _ hnone => rw [hnone] at hfile; cases hfile

/-- **Cancellation.** From every waiting state of `Lock` (the two `select`s) a cancelled
context leads to `return ctx.Err()` in one step of that actor … -/
theorem C08_cancel (c : Params) (s : State) (p : Nat)
    (h : (∃ e due, s.pc p = .sleepE e due) ∨ (∃ e due, s.pc p = .poll e due)) :
    ∃ s', step c s (.cancel p) = some s' ∧ s'.pc p = .cancelled := by
  rcases h with ⟨e, due, h⟩ | ⟨e, due, h⟩
  · exact ⟨_, (Effect.move h (.cancel (Or.inl rfl))).step_eq, upd_same⟩
  · exact ⟨_, (Effect.move h (.cancel (Or.inr rfl))).step_eq, upd_same⟩

/-- … and those are the only states in which a `Lock` call can wait: in every other state
of the loop the actor has a step that is enabled at once, whatever the others do -/
theorem C08_waits_only_in_select (c : Params) (s : State) (p : Nat)
    (h : (∃ e, s.pc p = .try_ e) ∨ (∃ i, s.pc p = .created i) ∨ (∃ e, s.pc p = .exists_ e) ∨ (∃ e, s.pc p = .removing e)) :
    ∃ ev s', step c s ev = some s' ∧ (ev = .tryCreate p ∨ ev = .writeMeta p ∨ ev = .observe p ∨ ev = .remove p) := by
  rcases h with ⟨e, h⟩ | ⟨i, h⟩ | ⟨e, h⟩ | ⟨e, h⟩
  · cases hf : s.file with
    | none => exact ⟨_, _, (Effect.create h hf).step_eq, Or.inl rfl⟩
    | some f => exact ⟨_, _, (Effect.move h (.busy hf)).step_eq, Or.inl rfl⟩
  · exact ⟨_, _, (Effect.writeMeta h).step_eq, Or.inr (Or.inl rfl)⟩
  · -- whatever it finds, the read is a move
    suffices m : ∃ x', Moves c s p (.exists_ e) (.observe p) x' from
      m.elim fun _ hm => ⟨_, _, (Effect.move h hm).step_eq, Or.inr (Or.inr (Or.inl rfl))⟩
    cases hf : s.file with
    | none => exact ⟨_, .gone hf⟩
    | some f =>
      obtain ⟨i, cont⟩ := f
      cases cont with
      | empty => exact ⟨_, .unread hf (Or.inl rfl)⟩
      | garbage => exact ⟨_, .unread hf (Or.inr rfl)⟩
      | stamp cr u =>
        cases hs : stale c s.now cr u
        · exact ⟨_, .fresh hf hs⟩
        · exact ⟨_, .expired hf hs⟩
  · exact ⟨_, _, (Effect.remove h).step_eq, Or.inr (Or.inr (Or.inr rfl))⟩

/-- **Recovery within a bound.** A lock file nobody alive owns (its holder was killed; with
D21 repaired no other process's heartbeat adopts it), found at instant `t` by a contender
that keeps polling alone with exact timers: the contender holds the lock at an instant
`t' ≤ recoverBound`, i.e. by `max t (ref + factor·H + P)` if the file carries a stamp
(`ref` = updated, or created), by `t + (N − 1)·E` if it is empty or undecodable (D8
repaired). For the code's constants: `max(t, ref + 11 s)` and `t + 1.75 s`. -/
theorem C08_recovers (c : Params) (hP : 0 < c.P) (hE : 0 < c.E) (hN : 0 < c.N)
    (s : State) (p i t : Nat) (cont : Content)
    (hp : s.pc p = .try_ 0) (hf : s.file = some (i, cont)) (hn : s.now = t) :
    ∃ n j t', (soloRun c n s p).pc p = .holding j t' ∧ (soloRun c n s p).now = t' ∧
      t' ≤ recoverBound c cont t := by
  have F : Frame s p (.try_ 0) (some (i, cont)) t := ⟨hp, hf, hn⟩
  have hk : 0 + 1 + (c.N - 1) = c.N := by rw [Nat.add_comm]; exact Nat.sub_add_cancel hN
  cases cont with
  | stamp cr u =>
    cases hs : stale c t cr u with
    | true => exact wins_take hs (Nat.le_max_left _ _) s F
    | false =>
      -- `refOf cr u` is by definition the `if` of `stale_iff`
      have hle : t ≤ refOf cr u + c.factor * c.H :=
        Nat.le_of_not_lt fun hh => by rw [stale_iff.mpr hh] at hs; cases hs
      -- `D` is the last instant at which the file is not stale; each poll takes time
      exact wins_stamp hP (D := refOf cr u + c.factor * c.H) (fun _ => stale_iff) (Nat.le_max_right _ _)
        _ 0 t hle (Nat.lt_add_left t (Nat.lt_succ_self _)) s F
  | empty => exact wins_empty hE (Or.inl rfl) (c.N - 1) 0 t hk s F
  | garbage => exact wins_empty hE (Or.inr rfl) (c.N - 1) 0 t hk s F

/-- the bound for the code's constants: 2·5 s + 1 s = 11 s after the last stamp (or at once
if that is past); 7 · 250 ms = 1.75 s for an empty or undecodable file -/
theorem C08_recover_bound_code :
    codeParams.factor * codeParams.H + codeParams.P = 11000000000 ∧
    (codeParams.N - 1) * codeParams.E = 1750000000 := by decide +kernel

/-! ### distinct names never block each other -/

/-- a world of lock files, one LTS per file (index = the file, i.e. the sanitised name) -/
abbrev World := Nat → State

def wstep (c : Params) (w : World) (f : Nat) (e : Ev) : Option World :=
  (step c (w f) e).map (fun s' => upd w f s')

/-- **Independence.** A step on lock file `f` leaves every other file's system untouched,
so it neither enables nor disables any step on `g ≠ f`, and steps on different files
commute. -/
theorem C08_independent (c : Params) (w : World) (f g : Nat) (hfg : f ≠ g) (e1 e2 : Ev) :
    (∀ w1, wstep c w f e1 = some w1 → w1 g = w g ∧ step c (w1 g) e2 = step c (w g) e2) ∧
    ((wstep c w f e1).bind (fun w1 => wstep c w1 g e2) = (wstep c w g e2).bind (fun w2 => wstep c w2 f e1)) := by
  refine ⟨?_, upd_step_comm (step c) w hfg e1 e2⟩
  intro w1 h1
  obtain ⟨s1, _, rfl⟩ := Option.map_eq_some_iff.mp h1
  have hg : upd w f s1 g = w g := upd_other hfg.symm
  exact ⟨hg, congrArg (step c · e2) hg⟩

/-- two lock names use the same lock file iff their sanitised forms are equal (C11), so
"distinct names" in the statement means distinct *sanitised* names (DESIGN §9) -/
theorem C08_same_file_iff_same_safe_name (E : CM.Safe.Env) (a b : CM.Safe.Str) :
    CM.Safe.lockFile E a = CM.Safe.lockFile E b ↔ CM.Safe.safe E a = CM.Safe.safe E b := by
  rw [(CM.Safe.C11_lock_in_lockdir E [] a).1, (CM.Safe.C11_lock_in_lockdir E [] b).1]
  constructor
  · intro h
    simp only [List.cons.injEq, and_true, true_and] at h
    exact List.append_cancel_right h
  · intro h; rw [h]

/-! ### non-vacuity and documented non-guarantees (examples, not claims) -/

/-- the hypotheses of `C08_mutex` are satisfiable by a non-trivial run: actor 0 acquires,
actor 1 finds the lock and polls, actor 0 beats (open, truncate, write), unlocks, actor 1
wakes up and acquires. The `example` gives the end state of the run (`run` checks no assumption; the prefix up
to actor 1's poll is checked against `Assumed` below). -/
def exEvents : List Ev :=
  [.lock 0, .tryCreate 0, .writeMeta 0, .lock 1, .tryCreate 1, .observe 1, .tick 1000000000, .wake 1,
   .tryCreate 1, .observe 1, .tick 4000000000, .hbOpen 0, .hbTrunc 0, .hbWrite 0, .unlock 0,
   .tick 1000000000, .wake 1, .tryCreate 1, .writeMeta 1]

example : ((run codeParams (initState 100 none) exEvents).map (fun s => (s.pc 0, s.pc 1, s.now))) =
    some (.released, .holding 2 6000000100, 6000000100) := by decide +kernel

/-- … and formally: a state with a holder (actor 0) and a polling contender (actor 1) is
reachable by a run every transition of which satisfies H_live, H_timely (J = 0), H_empty -/
example : ∃ s, Reach codeParams (Assumed codeParams 0) (initState 100 none) s ∧ owner s 0 ∧
    s.pc 1 = .poll 0 1000000100 ∧ s.file = some (1, .stamp 100 100) :=
  ⟨ex6, ex_reach, ⟨1, rfl⟩, rfl, rfl⟩

/-- `C08_fresh_never_stale` is not vacuous: after 9.9 s without a beat (lateness 4.9 s < H)
the holder's stamp is still fresh for a contender; the model's `stale` is the code's test -/
example : stale codeParams (100 + 9900000000) 100 100 = false := by decide +kernel
example : stale codeParams (100 + 10000000001) 100 100 = true := by decide +kernel

/-- `C08_recovers` on concrete dead files -/
example : ((soloRun codeParams 40 { initState 20000000000 (some (.stamp 12000000000 14000000000)) with
      pc := fun p => if p = 3 then .try_ 0 else .idle } 3).pc 3) = .holding 1 25000000000 := by decide +kernel
example : ((soloRun codeParams 40 { initState 20000000000 (some .garbage) with
      pc := fun p => if p = 3 then .try_ 0 else .idle } 3).pc 3) = .holding 1 21750000000 := by decide +kernel

/-- **Documented non-guarantee** (package comment of `FileStorage`): two contenders racing
for a STALE file can both end up holding — the second one's `os.Remove` deletes the lock
the first one has just created. This is why `C08_mutex` starts from an absent file and
assumes H_live. -/
example : ((run codeParams (initState 50000000000 (some (.stamp 1 1)))
    [.lock 0, .lock 1, .tryCreate 0, .tryCreate 1, .observe 0, .observe 1,
     .remove 0, .tryCreate 0, .writeMeta 0, .remove 1, .tryCreate 1, .writeMeta 1]).map
    (fun s => (s.pc 0, s.pc 1))) = some (.holding 1 50000000000, .holding 2 50000000000) := by decide +kernel

/-- **Why H_empty is an assumption** (with D18 repaired: eight reads *in a row*): a
contender that reads the file eight consecutive times inside truncate/rewrite windows of a
live holder's heartbeat declares it stale and takes the lock from the live holder
(shown with `N := 2`, two such reads, to keep the run short). -/
example : ((run { codeParams with N := 2 } (initState 100 none)
    [.lock 0, .tryCreate 0, .writeMeta 0, .tick 5000000000, .hbOpen 0, .hbTrunc 0,
     .lock 1, .tryCreate 1, .observe 1, .tick 250000000, .wake 1, .tryCreate 1, .observe 1,
     .remove 1, .tryCreate 1, .writeMeta 1]).map
    (fun s => (s.pc 0, s.pc 1))) = some (.holding 1 100, .holding 2 5250000100) := by decide +kernel

end CM.FileLock
