import CM.Proofs.Clean
/-!
# C18 — storage cleaning removes only expired material and nothing else

Theorems for every store (any association list of keys and values), every option
record and every `now`. `s' = (clean o now s).1` is the store after one `CleanStorage`.
The key-wise theorems are read off `clean_key` (`CM.Proofs.Clean`), which says of every key
what a cleaning did to it.
-/
namespace CM.Clean

/-- **only expired material is removed**: a key that disappears is (or lies below) a direct
child of `ocsp/` that is unparseable or past its NextUpdate, or the `.crt`/`.key`/`.json` of
a certificate with `now − expiresAt ≥ grace`, or it is a site folder left empty -/
theorem C18_only_expired (o : Opts) (now : Int) (s : Store) (k : Key)
    (hpres : get s k ≠ none) (hgone : get (clean o now s).1 k = none) :
    Justified o now s (clean o now s).1 k := by
  rcases clean_key o now s k with h | ⟨_, hj⟩ | ⟨_, h⟩
  · rw [h] at hgone; exact absurd hgone hpres
  · exact hj
  · rw [h] at hgone; cases hgone

/-- **frame**: every other key — accounts, locks, unexpired bundles, foreign files,
`*.compromised`, directories — has exactly its original value; nothing is created -/
theorem C18_frame (o : Opts) (now : Int) (s : Store) (k : Key) (hk : k ≠ lastKey)
    (hnj : ¬ Justified o now s (clean o now s).1 k) : get (clean o now s).1 k = get s k := by
  rcases clean_key o now s k with h | ⟨_, hj⟩ | ⟨h, _⟩
  · exact h
  · exact absurd hj hnj
  · exact absurd h hk

/-- no value is ever altered: a key that is still there has its original value -/
theorem C18_never_altered (o : Opts) (now : Int) (s : Store) (k : Key) (hk : k ≠ lastKey) (v : Val)
    (h : get (clean o now s).1 k = some v) : get s k = some v := by
  rcases clean_key o now s k with h' | ⟨hn, _⟩ | ⟨h', _⟩
  · rw [← h', h]
  · rw [hn] at h; cases h
  · exact absurd h' hk

/-- with a non-negative grace period, the `.crt`, `.key` and `.json` of a certificate that
has not expired (`now < expiresAt`) are kept with their values -/
theorem C18_unexpired_kept (o : Opts) (now : Int) (s : Store) (hg : 0 ≤ o.grace)
    (i st stem : Comp) (r : Readings) (na : Int)
    (hc : get s [certsC, i, st, stem ++ crtExt] = some (.file r)) (hna : r.cert = some na)
    (hlive : now < expiresAt na) (ext : List Char)
    (hext : ext = crtExt ∨ ext = keyExt ∨ ext = jsonExt) :
    get (clean o now s).1 [certsC, i, st, stem ++ ext] = get s [certsC, i, st, stem ++ ext] := by
  apply C18_frame
  · exact fun h => nomatch (List.cons.inj h).2
  · intro hj
    obtain ⟨_, i', st', stem', r', na', hc', hna', hexp, e, he, hk⟩ :=
      certDel_iff.mp (justified_asset hj)
    -- the same file name, hence the same certificate, and that one has expired
    simp only [List.cons.injEq, true_and, and_true] at hk
    obtain ⟨rfl, rfl, hf⟩ := hk
    rw [← stem_inj hext he hf, hc] at hc'
    cases hc'
    rw [hna] at hna'
    cases hna'
    omega

/-- **options**: nothing under `ocsp/` changes unless `OCSPStaples` is set -/
theorem C18_options_ocsp (o : Opts) (now : Int) (s : Store) (ho : o.ocsp = false) (t : Key) :
    get (clean o now s).1 (ocspC :: t) = get s (ocspC :: t) :=
  clean_outside_passes (fun h => ocsp_ne_last (List.cons.inj h).1) (fun _ => ho)
    (fun h => absurd h ocsp_ne_certs)

/-- **options**: nothing under `certificates/` changes unless `ExpiredCerts` is set -/
theorem C18_options_certs (o : Opts) (now : Int) (s : Store) (ho : o.certs = false) (t : Key) :
    get (clean o now s).1 (certsC :: t) = get s (certsC :: t) :=
  clean_outside_passes (fun h => certs_ne_last (List.cons.inj h).1)
    (fun h => absurd h.symm ocsp_ne_certs) (fun _ => ho)

/-- keys outside `ocsp/` and `certificates/` (accounts, locks, anything else) never change,
whatever the options -/
theorem C18_unrelated (o : Opts) (now : Int) (s : Store) (c : Comp) (t : Key)
    (h1 : c ≠ ocspC) (h2 : c ≠ certsC) (h3 : c :: t ≠ lastKey) :
    get (clean o now s).1 (c :: t) = get s (c :: t) :=
  clean_outside_passes h3 (fun h => absurd h h1) (fun h => absurd h h2)

/-- **interval**: a recorded cleaning younger than `Interval` ⇒ the store is unchanged and
no storage call other than lock/unlock is made -/
theorem C18_interval (o : Opts) (now : Int) (s : Store) (r : Readings) (t : Int) (who : List Char)
    (hi : o.interval > 0) (hl : get s lastKey = some (.file r)) (hr : r.last = some (some t, who))
    (hrecent : now - t < o.interval) :
    (clean o now s).1 = s ∧ acts o now s = [.lock, .unlock] := by
  have hc : lastCheck o now s ≠ .go := by
    rw [lastCheck_recent hi hl hr hrecent]
    nofun
  obtain ⟨hs, hran, hdels⟩ := clean_skip hc
  refine ⟨hs, ?_⟩
  unfold acts
  simp only [hran, hdels]
  rfl

/-- **records**: a cleaning either leaves the store exactly as it was (skipped, or the
record could not be read) or ends with `last_clean.json` holding `now` and the instance id -/
theorem C18_records (o : Opts) (now : Int) (s : Store) :
    ((clean o now s).2.ran = false ∧ (clean o now s).1 = s) ∨
    ((clean o now s).2.ran = true ∧ get (clean o now s).1 lastKey = some (record now o.inst)) := by
  by_cases h : lastCheck o now s = .go
  · exact Or.inr ⟨(clean_go h).2, by rw [(clean_go h).1]; exact if_pos rfl⟩
  · exact Or.inl ⟨(clean_skip h).2.1, (clean_skip h).1⟩

/-- … and it does run whenever no interval is configured, no cleaning is recorded, or
the recorded one is at least `Interval` old -/
theorem C18_runs_when_due (o : Opts) (now : Int) (s : Store)
    (h : o.interval ≤ 0 ∨ get s lastKey = none ∨
      ∃ r t who, get s lastKey = some (.file r) ∧ r.last = some (t, who) ∧
        ∀ t', t = some t' → now - t' ≥ o.interval) :
    (clean o now s).2.ran = true :=
  (clean_go (lastCheck_go h)).2

/-- **locked**: the mutating storage calls of a cleaning are `Lock(storage_clean)`, then only
deletions and the final store of `last_clean.json`, then `Unlock` — the whole body lies in
the critical section (that the real function has this shape is `C18_tie_locked`) -/
theorem C18_locked (o : Opts) (now : Int) (s : Store) :
    ∃ body, acts o now s = .lock :: body ++ [.unlock] ∧
      ∀ a ∈ body, (∃ k, a = .delete k) ∨ a = .store lastKey := by
  refine ⟨_, rfl, ?_⟩
  intro a ha
  rw [List.mem_append] at ha
  rcases ha with ha | ha
  · rw [List.mem_map] at ha
    obtain ⟨k, _, hk⟩ := ha
    exact Or.inl ⟨k, hk.symm⟩
  · split at ha
    · exact Or.inr (List.mem_singleton.mp ha)
    · cases ha

/-- the executable specification the driver evaluates on the IMPLEMENTATION's observed
before/after difference is sound for `Justified`: a deletion it accepts is justified -/
theorem C18_spec_sound (o : Opts) (now : Int) (s s' : Store) (k : Key)
    (h : justifiedB o now s s' k = true) : Justified o now s s' k :=
  justifiedB_sound h

/-! ### non-vacuity -/

def day : Int := 86400 * sec
def other : Val := .file { staple := none, cert := none, last := none }
def certV (na : Int) : Val := .file { staple := none, cert := some na, last := none }
def stapleV (nu : Int) : Val := .file { staple := some (some nu), cert := none, last := none }
def k (l : List String) : Key := l.map String.toList

/-- two issuers; a long-expired bundle, one expired exactly the grace period ago, a live one,
a foreign file directly under an issuer, a corrupt and a fresh staple, an account and a lock -/
def exStore : Store := [
  (k ["acme", "acct.json"], other),
  (k ["certificates", "ca1"], .dir),
  (k ["certificates", "ca1", "foreign.txt"], other),
  (k ["certificates", "ca1", "old.example"], .dir),
  (k ["certificates", "ca1", "old.example", "old.example.crt"], certV (100 * day)),
  (k ["certificates", "ca1", "old.example", "old.example.json"], other),
  (k ["certificates", "ca1", "old.example", "old.example.key"], other),
  (k ["certificates", "ca1", "live.example", "live.example.crt"], certV (300 * day)),
  (k ["certificates", "ca1", "live.example", "live.example.key"], other),
  (k ["certificates", "ca2", "edge.example", "edge.example.crt"], certV (190 * day - sec)),
  (k ["certificates", "ca2", "edge.example", "edge.example.key.compromised"], other),
  (k ["locks", "issue_cert_live.example.lock"], other),
  (k ["ocsp", "corrupt"], other),
  (k ["ocsp", "fresh"], stapleV (201 * day))]

def exOpts : Opts := { interval := day, ocsp := true, certs := true, grace := 10 * day, inst := "i1".toList }

/-- evaluated once; what follows about the cleaning at day 200 rewrites with it -/
theorem exClean : (clean exOpts (200 * day) exStore).1 = [
    (lastKey, record (200 * day) exOpts.inst),
    (k ["acme", "acct.json"], other),
    (k ["certificates", "ca1"], .dir),
    (k ["certificates", "ca1", "foreign.txt"], other),
    (k ["certificates", "ca1", "live.example", "live.example.crt"], certV (300 * day)),
    (k ["certificates", "ca1", "live.example", "live.example.key"], other),
    (k ["certificates", "ca2", "edge.example", "edge.example.key.compromised"], other),
    (k ["locks", "issue_cert_live.example.lock"], other),
    (k ["ocsp", "fresh"], stapleV (201 * day))] := by decide +kernel

example : ((clean exOpts (200 * day) exStore).1.map (·.1)) = [
    lastKey,
    k ["acme", "acct.json"],
    k ["certificates", "ca1"],
    k ["certificates", "ca1", "foreign.txt"],
    k ["certificates", "ca1", "live.example", "live.example.crt"],
    k ["certificates", "ca1", "live.example", "live.example.key"],
    k ["certificates", "ca2", "edge.example", "edge.example.key.compromised"],
    k ["locks", "issue_cert_live.example.lock"],
    k ["ocsp", "fresh"]] := by rw [exClean]; rfl

/-- hypotheses of `C18_only_expired` hold of a deleted key, of `C18_unexpired_kept` of a live one -/
example : get exStore (k ["certificates", "ca1", "old.example", "old.example.key"]) ≠ none ∧
    get (clean exOpts (200 * day) exStore).1 (k ["certificates", "ca1", "old.example", "old.example.key"]) = none := by
  rw [exClean]; decide +kernel
example : (200 * day : Int) < expiresAt (300 * day) ∧ (0 : Int) ≤ exOpts.grace := by decide +kernel
/-- one nanosecond earlier the certificate that expired exactly the grace period ago is kept -/
example : get (clean exOpts (200 * day - 1) exStore).1 (k ["certificates", "ca2", "edge.example", "edge.example.crt"]) ≠ none := by
  decide +kernel
/-- the second cleaning one hour later is skipped (`C18_interval`), one a day later is not -/
example : (clean exOpts (200 * day + 3600 * sec) (clean exOpts (200 * day) exStore).1).2.ran = false := by
  rw [exClean]; decide +kernel
example : (clean exOpts (201 * day) (clean exOpts (200 * day) exStore).1).2.ran = true := by
  rw [exClean]; decide +kernel
example : acts exOpts (200 * day) exStore ≠ [.lock, .unlock] :=
  fun he => absurd (he ▸ store_mem_acts (by decide +kernel)) (by simp)

/-- on the example it accepts a deletion the model makes and rejects the disappearance of a
foreign file the model keeps (that it accepts every deletion of the model is not proved) -/
example : justifiedB exOpts (200 * day) exStore (clean exOpts (200 * day) exStore).1
    (k ["certificates", "ca1", "old.example", "old.example.key"]) = true := by decide +kernel
example : justifiedB exOpts (200 * day) exStore (clean exOpts (200 * day) exStore).1
    (k ["certificates", "ca1", "foreign.txt"]) = false := by decide +kernel

end CM.Clean
