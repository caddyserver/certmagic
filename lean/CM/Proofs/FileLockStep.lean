import CM.Model.FileLock
/-! The transition relation of the lock-file LTS: `Effect` is `step` read once (`Effect.of_step`,
`Effect.step_eq`). The steps of `Lock` that change nothing but the caller's pc are set apart as `Moves`:
the invariants treat them alike. -/
namespace CM.FileLock

theorem ownIno_afterEmpty (c : Params) (now e : Nat) : ownIno (afterEmpty c now e) = none := by
  fun_cases afterEmpty c now e <;> rfl

inductive Moves (c : Params) (s : State) (p : Nat) : PC → Ev → PC → Prop
  | lock : Moves c s p .idle (.lock p) (.try_ 0)
  | busy {e f} : s.file = some f → Moves c s p (.try_ e) (.tryCreate p) (.exists_ e)
  | gone {e} : s.file = none → Moves c s p (.exists_ e) (.observe p) (.try_ e)
  | unread {e i cont} : s.file = some (i, cont) → cont = .empty ∨ cont = .garbage →
      Moves c s p (.exists_ e) (.observe p) (afterEmpty c s.now e)
  | expired {e i cr u} : s.file = some (i, .stamp cr u) → stale c s.now cr u = true →
      Moves c s p (.exists_ e) (.observe p) (.removing e)
  | fresh {e i cr u} : s.file = some (i, .stamp cr u) → stale c s.now cr u = false →
      Moves c s p (.exists_ e) (.observe p) (.poll 0 (s.now + c.P))
  | wake {x e due} : x = .sleepE e due ∨ x = .poll e due → due ≤ s.now → Moves c s p x (.wake p) (.try_ e)
  | cancel {x e due} : x = .sleepE e due ∨ x = .poll e due → Moves c s p x (.cancel p) .cancelled

inductive Effect (c : Params) (s : State) : Ev → State → Prop
  | tick {d} : Effect c s (.tick d) { s with now := s.now + d }
  | move {p x e x'} : s.pc p = x → Moves c s p x e x' → Effect c s e { s with pc := upd s.pc p x' }
  | create {p e} : s.pc p = .try_ e → s.file = none →
      Effect c s (.tryCreate p)
        { s with file := some (s.next, .empty), next := s.next + 1, pc := upd s.pc p (.created s.next) }
  | writeMeta {p i} : s.pc p = .created i →
      Effect c s (.writeMeta p)
        { s with file := writeIno s.file i (.stamp s.now s.now), pc := upd s.pc p (.holding i s.now)
                 hb := upd s.hb p (.sleep (s.now + c.H) s.now), beat := upd s.beat p s.now }
  | remove {p k} : s.pc p = .removing k →
      Effect c s (.remove p) { s with file := none, pc := upd s.pc p (.try_ k) }
  | unlock {p i cr} : s.pc p = .holding i cr →
      Effect c s (.unlock p) { s with file := none, pc := upd s.pc p .released }
  | die {p} : s.pc p ≠ .dead →
      Effect c s (.die p) { s with pc := upd s.pc p .dead, hb := upd s.hb p .stopped }
  | hbOpen {p due c0 i u} : s.hb p = .sleep due c0 → due ≤ s.now → s.file = some (i, .stamp c0 u) →
      Effect c s (.hbOpen p) { s with hb := upd s.hb p (.opened i c0) }
  | hbStop {p due c0} : s.hb p = .sleep due c0 → due ≤ s.now → (∀ i u, s.file ≠ some (i, .stamp c0 u)) →
      Effect c s (.hbOpen p) { s with hb := upd s.hb p .stopped }
  | hbTrunc {p i c0} : s.hb p = .opened i c0 →
      Effect c s (.hbTrunc p) { s with file := writeIno s.file i .empty, hb := upd s.hb p (.trunc i c0) }
  | hbWrite {p i c0} : s.hb p = .trunc i c0 →
      Effect c s (.hbWrite p)
        { s with file := writeIno s.file i (.stamp c0 s.now), hb := upd s.hb p (.sleep (s.now + c.H) c0)
                 beat := upd s.beat p s.now }

theorem Moves.own {c : Params} {s : State} {p : Nat} {x x' : PC} {e : Ev} (h : Moves c s p x e x') :
    ownIno x = none ∧ ownIno x' = none := by
  cases h with
  | unread => exact ⟨rfl, ownIno_afterEmpty ..⟩
  | wake hx | cancel hx => rcases hx with rfl | rfl <;> exact ⟨rfl, rfl⟩
  | _ => exact ⟨rfl, rfl⟩

theorem Effect.of_step {c : Params} {s s' : State} {e : Ev} (h : step c s e = some s') : Effect c s e s' := by
  revert h
  -- one goal per leaf of `step`, in the order of its definition; `cases h` closes the refusals
  fun_cases step c s e
  all_goals intro h; cases h
  next => exact .tick
  next hp => exact .move hp .lock
  next hp hf => exact .create hp hf
  next hp _ hf => exact .move hp (.busy hf)
  next hp => exact .writeMeta hp
  next hp hf => exact .move hp (.gone hf)
  next hp _ hf => exact .move hp (.unread hf (Or.inl rfl))
  next hp _ hf => exact .move hp (.unread hf (Or.inr rfl))
  next hp _ _ _ hf hs => exact .move hp (.expired hf hs)
  next hp _ _ _ hf hs => exact .move hp (.fresh hf (Bool.eq_false_iff.mpr hs))
  next hp => exact .remove hp
  next hp hd => exact .move hp (.wake (Or.inl rfl) hd)
  next hp hd => exact .move hp (.wake (Or.inr rfl) hd)
  next hp => exact .move hp (.cancel (Or.inl rfl))
  next hp => exact .move hp (.cancel (Or.inr rfl))
  next hp => exact .unlock hp
  next hp => exact .die hp
  next hd _ _ _ hf hp => exact .hbOpen hp hd hf
  next hp hd _ _ _ hf hc => exact .hbStop hp hd fun i u hf' => by rw [hf] at hf'; cases hf'; exact hc rfl
  next hp hd hf => exact .hbStop hp hd fun i u hf' => hf i _ u hf'
  next hp => exact .hbTrunc hp
  next hp => exact .hbWrite hp

theorem Effect.step_eq {c : Params} {s s' : State} {e : Ev} (h : Effect c s e s') : step c s e = some s' := by
  cases h with
  | tick => rfl
  | move hp hm =>
    cases hm with
    | lock => dsimp only [step]; rw [hp]
    | busy hf | gone hf => dsimp only [step]; rw [hp, hf]
    | unread hf hc => dsimp only [step]; rcases hc with rfl | rfl <;> rw [hp, hf]
    | expired hf hs => dsimp only [step]; rw [hp, hf]; exact if_pos hs
    | fresh hf hs => dsimp only [step]; rw [hp, hf]; exact if_neg (by rw [hs]; exact Bool.false_ne_true)
    | wake hx hd => dsimp only [step]; rcases hx with rfl | rfl <;> rw [hp] <;> exact if_pos hd
    | cancel hx => dsimp only [step]; rcases hx with rfl | rfl <;> rw [hp]
  | create hp hf => dsimp only [step]; rw [hp, hf]
  | writeMeta hp | remove hp | unlock hp | hbTrunc hp | hbWrite hp => dsimp only [step]; rw [hp]
  | die hp =>
    dsimp only [step]
    split
    · rename_i hd; exact absurd hd hp
    · rfl
  | hbOpen hp hd hf => dsimp only [step]; rw [hp]; dsimp only; rw [if_pos hd, hf]; exact if_pos rfl
  | hbStop hp hd hf =>
    dsimp only [step]; rw [hp]; dsimp only; rw [if_pos hd]
    split
    · rename_i hf'
      split
      · rename_i hc; subst hc; exact absurd hf' (hf _ _)
      · rfl
    · rfl

end CM.FileLock
