import CM.Model.Clean
import CM.Lib.KV
/-!
Helper lemmas for C18: the key–value tree, the justification predicates of the
specification, the invariant every step of the cleaning preserves, and what a whole
`CleanStorage` does to a single key (`clean_key`).
-/
namespace CM.Clean

theorem get_eq_load (s : Store) (k : Key) : get s k = KV.load s k := by
  induction s with
  | nil => rfl
  | cons e s ih => simp only [get, KV.load, ih]

theorem get_del (d : Key) (s : Store) (k : Key) :
    get (del d s) k = if d <+: k then none else get s k := by
  rw [get_eq_load, get_eq_load, del, KV.load_filter s (fun x => !decide (d <+: x))]
  simp

theorem get_put (k : Key) (v : Val) (s : Store) (k' : Key) :
    get (put k v s) k' = if k = k' then some v else get s k' := rfl

theorem get_mem {s : Store} {k : Key} {v : Val} (h : get s k = some v) : (k, v) ∈ s :=
  KV.load_mem (get_eq_load s k ▸ h)

theorem nextComp_none {p k : Key} (hp : p <+: k) (h : nextComp p k = none) : k = p := by
  fun_induction nextComp p k with
  | case1 => cases h
  | case2 => rfl
  | case3 => simp at hp
  | case4 a p k ih => rw [ih (List.cons_prefix_cons.mp hp).2 h]
  | case5 a p b k hab => exact absurd (List.cons_prefix_cons.mp hp).1 hab

theorem listing_nil {p : Key} {s : Store} (h : listing p s = some []) (k : Key) (hp : p <+: k)
    (hk : k ≠ p) : get s k = none := by
  unfold listing at h
  split at h
  · have hnil : ∀ e ∈ s, nextComp p e.1 = none := by
      rw [← List.filterMap_eq_nil_iff]
      cases hl : s.filterMap (fun e => nextComp p e.1) with
      | nil => rfl
      | cons x xs => rw [hl, List.eraseDups_cons] at h; cases h
    exact Option.eq_none_iff_forall_ne_some.mpr fun v hg => hk (nextComp_none hp (hnil _ (get_mem hg)))
  · cases h

theorem strip_some {suf c stem : List Char} (h : strip suf c = some stem) : c = stem ++ suf := by
  fun_induction strip suf c generalizing stem with
  | case1 hs => cases h; exact hs.symm
  | case2 => cases h
  | case3 x xs hs => cases h; exact hs
  | case4 x xs hs ih =>
    obtain ⟨st, hr, rfl⟩ := Option.map_eq_some_iff.mp h
    rw [ih hr, List.cons_append]

theorem ocsp_ne_certs : ocspC ≠ certsC := by decide +kernel
theorem ocsp_ne_last : ocspC ≠ lastC := by decide +kernel
theorem certs_ne_last : certsC ≠ lastC := by decide +kernel

theorem stem_inj {a b e e' : List Char} (he : e = crtExt ∨ e = keyExt ∨ e = jsonExt)
    (he' : e' = crtExt ∨ e' = keyExt ∨ e' = jsonExt) (h : a ++ e = b ++ e') : a = b := by
  have free : ∀ x ∈ [crtExt, keyExt, jsonExt], ∀ y ∈ [crtExt, keyExt, jsonExt], x <:+ y → x = y := by
    decide +kernel
  have hm : e ∈ [crtExt, keyExt, jsonExt] := by simpa using he
  have hm' : e' ∈ [crtExt, keyExt, jsonExt] := by simpa using he'
  have hee : e = e' :=
    (List.suffix_or_suffix_of_suffix (List.suffix_append a e) (h ▸ List.suffix_append b e')).elim
      (free e hm e' hm') fun hs => (free e' hm' e hm hs).symm
  exact List.append_cancel_right (hee ▸ h)

/-! ### the specification: when a key may disappear -/

/-- a direct child of `ocsp/` whose content is unparseable or past its NextUpdate -/
def StapleDel (o : Opts) (now : Int) (s : Store) (d : Key) : Prop :=
  o.ocsp = true ∧ ∃ c r, d = [ocspC, c] ∧ get s d = some (.file r) ∧ staleStaple now r = true

/-- the `.crt`, `.key` or `.json` of a certificate that expired at least the grace period ago -/
def CertDel (o : Opts) (now : Int) (s : Store) (d : Key) : Prop :=
  o.certs = true ∧ ∃ i st stem r na,
    get s [certsC, i, st, stem ++ crtExt] = some (.file r) ∧ r.cert = some na ∧
    now - expiresAt na ≥ o.grace ∧
    (d = [certsC, i, st, stem ++ crtExt] ∨ d = [certsC, i, st, stem ++ keyExt] ∨
     d = [certsC, i, st, stem ++ jsonExt])

/-- a site folder (a directory `certificates/<issuer>/<site>`) under which nothing is left -/
def SiteDel (o : Opts) (s cur : Store) (k : Key) : Prop :=
  o.certs = true ∧ ∃ i st, k = [certsC, i, st] ∧ get s k = some .dir ∧
    ∀ k', k <+: k' → get cur k' = none

/-- key `k` may be missing from `cur`: it is, or lies below, a stale staple or an asset of
an expired certificate, or it is an emptied site folder -/
def Justified (o : Opts) (now : Int) (s cur : Store) (k : Key) : Prop :=
  (∃ d, d <+: k ∧ (StapleDel o now s d ∨ CertDel o now s d)) ∨ SiteDel o s cur k

variable {o : Opts} {now : Int} {s cur : Store}

/-- `CertDel` with its three alternatives read as one extension -/
theorem certDel_iff {d : Key} :
    CertDel o now s d ↔ o.certs = true ∧ ∃ i st stem r na,
      get s [certsC, i, st, stem ++ crtExt] = some (.file r) ∧ r.cert = some na ∧
      now - expiresAt na ≥ o.grace ∧
      ∃ e, (e = crtExt ∨ e = keyExt ∨ e = jsonExt) ∧ d = [certsC, i, st, stem ++ e] := by
  simp only [CertDel, or_and_right, exists_or, exists_eq_left]

theorem justified_head {k : Key} (h : Justified o now s cur k) :
    (o.ocsp = true ∧ ∃ t, k = ocspC :: t) ∨ (o.certs = true ∧ ∃ t, k = certsC :: t) := by
  rcases h with ⟨d, ⟨t, rfl⟩, ⟨ho, c, _, rfl, _⟩ | hc⟩ | ⟨ho, i, st, rfl, _⟩
  · exact Or.inl ⟨ho, _, rfl⟩
  · obtain ⟨ho, i, st, stem, _, _, _, _, _, e, _, rfl⟩ := certDel_iff.mp hc
    exact Or.inr ⟨ho, _, rfl⟩
  · exact Or.inr ⟨ho, _, rfl⟩

theorem justified_asset {i st f : Comp} (h : Justified o now s cur [certsC, i, st, f]) :
    CertDel o now s [certsC, i, st, f] := by
  rcases h with ⟨d, hd, ⟨_, c, _, rfl, _⟩ | hc⟩ | ⟨_, _, _, hk, _⟩
  · exact absurd (List.cons_prefix_cons.mp hd).1 ocsp_ne_certs
  · obtain ⟨_, i', st', stem, _, _, _, _, _, e, _, hd'⟩ := certDel_iff.mp hc
    -- `d` has four components, so it is the key itself
    rwa [← hd.eq_of_length (by rw [hd']; rfl)]
  · cases hk

theorem justified_mono {a b : Store} {k : Key}
    (hm : ∀ k', k <+: k' → get a k' = none → get b k' = none)
    (h : Justified o now s a k) : Justified o now s b k := by
  rcases h with h | ⟨ho, i, st, hk, hd, hall⟩
  · exact Or.inl h
  · exact Or.inr ⟨ho, i, st, hk, hd, fun k' hp => hm k' hp (hall k' hp)⟩

theorem justified_put {v : Val} {k : Key} (h : Justified o now s cur k) :
    Justified o now s (put lastKey v cur) k := by
  refine justified_mono (fun k' hp hn => ?_) h
  rw [get_put, if_neg, hn]
  rintro rfl
  rcases justified_head h with ⟨_, t, rfl⟩ | ⟨_, t, rfl⟩
  · exact ocsp_ne_last (List.cons_prefix_cons.mp hp).1
  · exact certs_ne_last (List.cons_prefix_cons.mp hp).1

/-- `cur`, a store on the way from `s`: every key has its original value, or is gone and
`Justified` -/
def Inv (o : Opts) (now : Int) (s cur : Store) : Prop :=
  ∀ k, get cur k = get s k ∨ (get cur k = none ∧ Justified o now s cur k)

theorem inv_refl : Inv o now s s := fun _ => Or.inl rfl

theorem inv_get (hinv : Inv o now s cur) {k : Key} {v : Val} (h : get cur k = some v) :
    get s k = some v := by
  rcases hinv k with h' | ⟨h', _⟩
  · rw [← h', h]
  · rw [h'] at h; cases h

/-- Only the keys the deletion removes (`get cur k ≠ none`) need `hd`: a key absent before
stays as `Inv` found it, since a deletion falsifies no `Justified` (`justified_mono`). `hd`
speaks of the store after the deletion because that is where `Inv` then reads `SiteDel`'s
"nothing is left below". -/
theorem inv_del {d : Key} (hinv : Inv o now s cur)
    (hd : ∀ k, d <+: k → get cur k ≠ none → Justified o now s (del d cur) k) :
    Inv o now s (del d cur) := by
  intro k
  have hmono : Justified o now s cur k → Justified o now s (del d cur) k :=
    justified_mono fun k' _ hn => by rw [get_del, hn, ite_self]
  rw [get_del]
  split
  · next h =>
    rcases hinv k with h' | ⟨_, hj⟩
    · by_cases hn : get cur k = none
      · exact Or.inl (hn.symm.trans h')
      · exact Or.inr ⟨rfl, hd k h hn⟩
    · exact Or.inr ⟨rfl, hmono hj⟩
  · exact (hinv k).imp_right (And.imp_right hmono)

theorem inv_del_expired {d : Key} (hd : StapleDel o now s d ∨ CertDel o now s d)
    (hinv : Inv o now s cur) : Inv o now s (del d cur) :=
  inv_del hinv fun _ hk _ => Or.inl ⟨d, hk, hd⟩

theorem inv_del_site {i c : Comp} (ho : o.certs = true) (hinv : Inv o now s cur)
    (hl : listing [certsC, i, c] cur = some []) (hdir : get cur [certsC, i, c] = some .dir) :
    Inv o now s (del [certsC, i, c] cur) := by
  apply inv_del hinv
  intro k hk hne
  by_cases hkk : k = [certsC, i, c]
  · subst hkk
    exact Or.inr ⟨ho, i, c, rfl, inv_get hinv hdir, fun k' hk' => by rw [get_del, if_pos hk']⟩
  · exact absurd (listing_nil hl k hk hkk) hne

theorem foldl_inv {f : St → Comp → St} (hf : ∀ st, Inv o now s st.s → ∀ c, Inv o now s (f st c).s)
    {l : List Comp} {st : St} (hinv : Inv o now s st.s) : Inv o now s (l.foldl f st).s :=
  List.foldlRecOn (motive := fun st => Inv o now s st.s) l f hinv fun st h c _ => hf st h c

theorem stapleStep_inv (ho : o.ocsp = true) (st : St) (hinv : Inv o now s st.s) (c : Comp) :
    Inv o now s (stapleStep now st c).s := by
  fun_cases stapleStep now st c with
  | case1 r hg hs => exact inv_del_expired (.inl ⟨ho, c, r, rfl, inv_get hinv hg, hs⟩) hinv
  | _ => exact hinv

theorem staples_inv (ho : o.ocsp = true) {st : St} (hinv : Inv o now s st.s) :
    Inv o now s (staples now st).s := by
  fun_cases staples now st with
  | case1 => exact hinv
  | case2 => exact foldl_inv (stapleStep_inv ho) hinv

theorem assetStep_inv (ho : o.certs = true) (i c : Comp) (st : St) (hinv : Inv o now s st.s)
    (a : Comp) : Inv o now s (assetStep o now [certsC, i, c] st a).s := by
  fun_cases assetStep o now [certsC, i, c] st a with
  -- the one branch that deletes: a readable `<stem>.crt` expired for the grace period
  | case3 _ stem hstem r hg na hna hexp =>
    rw [strip_some hstem] at hg ⊢
    have hj : ∀ e, (e = crtExt ∨ e = keyExt ∨ e = jsonExt) →
        CertDel o now s [certsC, i, c, stem ++ e] :=
      fun e he => certDel_iff.mpr ⟨ho, i, c, stem, r, na, inv_get hinv hg, hna, hexp, e, he, rfl⟩
    exact inv_del_expired (.inr (hj _ (.inr (.inr rfl)))) (inv_del_expired
      (.inr (hj _ (.inr (.inl rfl)))) (inv_del_expired (.inr (hj _ (.inl rfl))) hinv))
  | _ => exact hinv

theorem siteStep_inv (ho : o.certs = true) (i : Comp) (st : St) (hinv : Inv o now s st.s)
    (c : Comp) : Inv o now s (siteStep o now [certsC, i] st c).s := by
  fun_cases siteStep o now [certsC, i] st c with
  | case1 | case2 => exact hinv
  -- after the assets the listing is empty and the key is a directory: it is deleted
  | case4 _ assets _ st1 _ hl hdir =>
    exact inv_del_site ho (foldl_inv (assetStep_inv ho i c) hinv) hl hdir
  | _ => exact foldl_inv (assetStep_inv ho i c) hinv

theorem issuerStep_inv (ho : o.certs = true) (st : St) (hinv : Inv o now s st.s) (i : Comp) :
    Inv o now s (issuerStep o now st i).s := by
  fun_cases issuerStep o now st i with
  | case3 => exact foldl_inv (siteStep_inv ho i) hinv
  | _ => exact hinv

theorem certsPass_inv (ho : o.certs = true) {st : St} (hinv : Inv o now s st.s) :
    Inv o now s (certsPass o now st).s := by
  fun_cases certsPass o now st with
  | case1 => exact hinv
  | case2 => exact foldl_inv (issuerStep_inv ho) hinv

theorem body_inv : Inv o now s (body o now s).s := by
  have h1 : Inv o now s (if o.ocsp = true then staples now { s := s, dels := [], abort := false }
      else { s := s, dels := [], abort := false }).s := by
    split
    · next ho => exact staples_inv ho inv_refl
    · exact inv_refl
  fun_cases body o now s with
  | case1 _ _ ho => exact certsPass_inv ho h1
  | case2 => exact h1

theorem lastCheck_recent {r : Readings} {t : Int} {who : List Char} (hi : o.interval > 0)
    (hl : get s lastKey = some (.file r)) (hr : r.last = some (some t, who))
    (hrecent : now - t < o.interval) : lastCheck o now s = .recent := by
  unfold lastCheck
  rw [if_pos hi, hl]
  simp only [hr, if_pos hrecent]

theorem lastCheck_go
    (h : o.interval ≤ 0 ∨ get s lastKey = none ∨
      ∃ r t who, get s lastKey = some (.file r) ∧ r.last = some (t, who) ∧
        ∀ t', t = some t' → now - t' ≥ o.interval) : lastCheck o now s = .go := by
  unfold lastCheck
  split
  · next hi =>
    rcases h with h | h | ⟨r, t, who, hl, hr, ht⟩
    · omega
    · rw [h]
    · rw [hl]
      simp only [hr]
      cases t with
      | none => rfl
      | some t' => exact if_neg (Int.not_lt.mpr (ht t' rfl))
  · rfl

theorem clean_go (h : lastCheck o now s = .go) :
    (clean o now s).1 = put lastKey (record now o.inst) (body o now s).s ∧
      (clean o now s).2.ran = true := by
  unfold clean
  rw [h]
  exact ⟨rfl, rfl⟩

theorem clean_skip (h : lastCheck o now s ≠ .go) :
    (clean o now s).1 = s ∧ (clean o now s).2.ran = false ∧ (clean o now s).2.dels = [] := by
  fun_cases clean o now s with
  | case4 hc => exact absurd hc h
  | _ => exact ⟨rfl, rfl, rfl⟩

theorem store_mem_acts (h : (clean o now s).2.ran = true) : .store lastKey ∈ acts o now s := by
  simp [acts, h]

theorem clean_key (o : Opts) (now : Int) (s : Store) (k : Key) :
    get (clean o now s).1 k = get s k ∨
    (get (clean o now s).1 k = none ∧ Justified o now s (clean o now s).1 k) ∨
    (k = lastKey ∧ get (clean o now s).1 k = some (record now o.inst)) := by
  by_cases h : lastCheck o now s = .go
  · rw [(clean_go h).1, get_put]
    split
    · next hk => exact .inr (.inr ⟨hk.symm, rfl⟩)
    · exact (body_inv k).imp_right fun ⟨hn, hj⟩ => .inl ⟨hn, justified_put hj⟩
  · rw [(clean_skip h).1]
    exact .inl rfl

theorem clean_outside_passes {c : Comp} {t : Key}
    (hl : c :: t ≠ lastKey) (hs : c = ocspC → o.ocsp = false) (hc : c = certsC → o.certs = false) :
    get (clean o now s).1 (c :: t) = get s (c :: t) := by
  rcases clean_key o now s (c :: t) with h | ⟨_, hj⟩ | ⟨h, _⟩
  · exact h
  · rcases justified_head hj with ⟨ho, _, ht⟩ | ⟨ho, _, ht⟩
    · rw [hs (List.cons.inj ht).1] at ho; cases ho
    · rw [hc (List.cons.inj ht).1] at ho; cases ho
  · exact absurd h hl

/-! ### the executable specification and its soundness

`justifiedB` is what the driver evaluates on the implementation's observed before/after
difference; `justifiedB_sound` says that whenever it answers `true` the key's disappearance
is justified in the sense of the theorems (`Justified`). -/

def stapleDelB (o : Opts) (now : Int) (s : Store) (d : Key) : Bool :=
  o.ocsp && match d with
    | [a, _] => decide (a = ocspC) && (match get s d with
      | some (.file r) => staleStaple now r
      | _ => false)
    | _ => false

/-- is `f`, read as `<stem><e>`, an asset of a certificate `<stem>.crt` of this site that
expired at least the grace period ago? -/
def expiredVia (o : Opts) (now : Int) (s : Store) (i st : Comp) (f e : List Char) : Bool :=
  match strip e f with
  | some stem =>
    (match get s [certsC, i, st, stem ++ crtExt] with
    | some (.file r) => (match r.cert with
      | some na => decide (now - expiresAt na ≥ o.grace)
      | none => false)
    | _ => false)
  | none => false

def certDelB (o : Opts) (now : Int) (s : Store) (d : Key) : Bool :=
  o.certs && match d with
    | [a, i, st, f] => decide (a = certsC) &&
        (expiredVia o now s i st f crtExt || expiredVia o now s i st f keyExt || expiredVia o now s i st f jsonExt)
    | _ => false

def siteDelB (o : Opts) (s s' : Store) (k : Key) : Bool :=
  o.certs && match k with
    | [a, _, _] => decide (a = certsC) && decide (get s k = some .dir) && s'.all (fun e => !decide (k <+: e.1))
    | _ => false

def inits : Key → List Key
  | [] => [[]]
  | c :: k => [] :: (inits k).map (c :: ·)

def justifiedB (o : Opts) (now : Int) (s s' : Store) (k : Key) : Bool :=
  (inits k).any (fun d => stapleDelB o now s d || certDelB o now s d) || siteDelB o s s' k

theorem inits_prefix {k d : Key} (h : d ∈ inits k) : d <+: k := by
  fun_induction inits k generalizing d with
  | case1 => rw [List.mem_singleton] at h; exact h ▸ List.prefix_refl _
  | case2 c k ih =>
    rw [List.mem_cons, List.mem_map] at h
    rcases h with rfl | ⟨d', hd', rfl⟩
    · exact List.nil_prefix
    · exact (List.prefix_cons_inj c).mpr (ih hd')

theorem stapleDelB_sound {d : Key} (h : stapleDelB o now s d = true) : StapleDel o now s d := by
  unfold stapleDelB at h
  split at h
  · next a c =>
    simp only [Bool.and_eq_true, decide_eq_true_eq] at h
    obtain ⟨ho, rfl, h⟩ := h
    split at h
    · next r hg => exact ⟨ho, c, r, rfl, hg, h⟩
    · cases h
  · rw [Bool.and_false] at h; cases h

theorem expiredVia_sound {i st : Comp} {f e : List Char} (ho : o.certs = true)
    (he : e = crtExt ∨ e = keyExt ∨ e = jsonExt) :
    expiredVia o now s i st f e = true → CertDel o now s [certsC, i, st, f] := by
  fun_cases expiredVia o now s i st f e with
  | case1 stem hs r hg na hna =>
    exact fun h => certDel_iff.mpr ⟨ho, i, st, stem, r, na, hg, hna, of_decide_eq_true h, e, he,
      by rw [strip_some hs]⟩
  | _ => exact nofun

theorem certDelB_sound {d : Key} (h : certDelB o now s d = true) : CertDel o now s d := by
  unfold certDelB at h
  split at h
  · simp only [Bool.and_eq_true, decide_eq_true_eq, Bool.or_eq_true] at h
    obtain ⟨ho, rfl, (h | h) | h⟩ := h
    · exact expiredVia_sound ho (.inl rfl) h
    · exact expiredVia_sound ho (.inr (.inl rfl)) h
    · exact expiredVia_sound ho (.inr (.inr rfl)) h
  · rw [Bool.and_false] at h; cases h

theorem siteDelB_sound {s' : Store} {k : Key} (h : siteDelB o s s' k = true) :
    SiteDel o s s' k := by
  unfold siteDelB at h
  split at h
  · next a i st =>
    simp only [Bool.and_eq_true, decide_eq_true_eq, List.all_eq_true, Bool.not_eq_true',
      decide_eq_false_iff_not] at h
    obtain ⟨ho, ⟨rfl, hd⟩, hall⟩ := h
    exact ⟨ho, i, st, rfl, hd, fun k' hk' =>
      Option.eq_none_iff_forall_ne_some.mpr fun v hg => hall _ (get_mem hg) hk'⟩
  · rw [Bool.and_false] at h; cases h

theorem justifiedB_sound {s' : Store} {k : Key} (h : justifiedB o now s s' k = true) :
    Justified o now s s' k := by
  unfold justifiedB at h
  simp only [Bool.or_eq_true, List.any_eq_true] at h
  rcases h with ⟨d, hd, h⟩ | h
  · exact Or.inl ⟨d, inits_prefix hd, h.imp stapleDelB_sound certDelB_sound⟩
  · exact Or.inr (siteDelB_sound h)

end CM.Clean
