import CM.Model.Bundle
/-!
Lemmas for C06 / C07: what `load` says about the three slots, the state a completed save
leaves, what `recover` repairs, and which crash states of a save it cannot repair.
-/
namespace CM.Bundle

theorem load_of_fields {s : Slots} {k : KeyId} {c : Crt} {m : Nat}
    (hk : s.key = some k) (hc : s.crt = some c) (hm : s.mta = some m) :
    load s = if k = c.pub then .ok k c else .mismatch := by
  simp only [load, hk, hc, hm]

theorem load_mk {k : KeyId} {ser nb m : Nat} {q : Option KeyId} :
    load { key := some k, crt := some { pub := k, ser := ser, nb := nb }, mta := some m, compromised := q } =
      .ok k { pub := k, ser := ser, nb := nb } := by
  rw [load_of_fields rfl rfl rfl, if_pos rfl]

theorem fields_of_load_ok {s : Slots} {k : KeyId} {c : Crt} :
    load s = .ok k c → s.key = some k ∧ s.crt = some c ∧ (∃ m, s.mta = some m) ∧ k = c.pub := by
  fun_cases load s
  all_goals intro h; cases h  -- only the leaf that returns `.ok` is left
  next m hm hc hk => exact ⟨hk, hc, ⟨m, hm⟩, rfl⟩

theorem fields_of_load_mismatch {s : Slots} :
    load s = .mismatch →
      ∃ k c m, s.key = some k ∧ s.crt = some c ∧ s.mta = some m ∧ k ≠ c.pub := by
  fun_cases load s
  all_goals intro h; cases h
  next k hk c hc m hm hne => exact ⟨k, c, m, hk, hc, hm, hne⟩

theorem load_eq_notexist_iff {s : Slots} : load s = .notexist ↔ hasAll s = false := by
  fun_cases load s <;> simp [hasAll, *]

theorem load_ne_mismatch_of_pair {t : Slots} {k : KeyId} {c : Crt}
    (hk : t.key = some k) (hcr : t.crt = some c) (hc : c.pub = k) : load t ≠ .mismatch := by
  intro h
  obtain ⟨k', c', _, hk', hc', _, hne⟩ := fields_of_load_mismatch h
  rw [hk] at hk'
  rw [hcr] at hc'
  cases hk'
  cases hc'
  exact hne hc.symm

theorem load_ne_mismatch_of_missing {t : Slots} (h : t.crt = none ∨ t.mta = none) :
    load t ≠ .mismatch := by
  intro hl
  obtain ⟨_, _, _, _, hc, hm, _⟩ := fields_of_load_mismatch hl
  rcases h with h | h
  · rw [h] at hc; cases hc
  · rw [h] at hm; cases hm

theorem applyFirst_save_all {j : Nat} (hj : 3 ≤ j) (k : KeyId) (c : Crt) (s : Slots) :
    applyFirst j (saveWrites k c) s =
      { key := some k, crt := some c, mta := some c.ser, compromised := s.compromised } := by
  rw [applyFirst, List.take_of_length_le hj]
  rfl

theorem obtain_eq (e : Env) (s : Slots) (h : hasAll s = false) :
    obtain e s = { key := some (obtainKey e s), crt := some { pub := obtainKey e s, ser := e.ser, nb := e.now },
                   mta := some e.ser, compromised := s.compromised } := by
  simp only [obtain, h]
  rfl

theorem renew_eq (e : Env) (s : Slots) {k0 : KeyId} {c0 : Crt} (h : load s = .ok k0 c0) :
    renew e s = some { key := some (renewKey e k0), crt := some { pub := renewKey e k0, ser := e.ser, nb := e.now },
                       mta := some e.ser, compromised := s.compromised } := by
  simp only [renew, h]
  rfl

theorem obtain_usable (e : Env) (s : Slots) (h : hasAll s = false) : usable (obtain e s) = true := by
  rw [obtain_eq e s h, usable, load_mk]

/-- `manageOne` repairs everything except a stored key that is not the stored
certificate's: that load error is not not-exist, so nothing is obtained -/
theorem usable_recover_iff {e : Env} {t : Slots} :
    usable (recover e t) = true ↔ load t ≠ .mismatch := by
  unfold recover
  cases h : load t with
  | ok k c => simp [usable, h]
  | notexist => simp [obtain_usable e t (load_eq_notexist_iff.mp h)]
  | mismatch => simp [usable, h]

/-- only the state before the save and the state after its first store (new key beside the
old certificate) depend on what was stored -/
theorem recovers_of_crash (e : Env) {s : Slots} {j : Nat} {k : KeyId} {c : Crt} (hc : c.pub = k)
    (h0 : j = 0 → load s ≠ .mismatch)
    (h1 : j = 1 → load { s with key := some k } ≠ .mismatch) :
    usable (recover e (applyFirst j (saveWrites k c) s)) = true := by
  rw [usable_recover_iff]
  obtain _ | _ | _ | j := j
  · exact h0 rfl
  · exact h1 rfl
  -- from the second store on, key and certificate are the new pair
  · exact load_ne_mismatch_of_pair (t := { s with key := some k, crt := some c }) rfl rfl hc
  · rw [applyFirst_save_all (Nat.le_add_left 3 j)]
    exact load_ne_mismatch_of_pair rfl rfl hc

theorem key_ne_of_mem_quarantineAll {k : KeyId} {l : List Slots} {s : Slots}
    (hs : s ∈ quarantineAll k l) : s.key ≠ some k := by
  obtain ⟨t, _, rfl⟩ := List.mem_map.mp hs
  split
  · nofun
  · assumption

theorem newest_mem {l : List Slots} {c : Crt} (h : newest l = some c) :
    ∃ s ∈ l, ∃ k, load s = .ok k c := by
  -- cases 2 to 4: the first bundle loads and the rest's newest is later / is not later /
  -- does not exist; case 5: the first bundle does not load
  fun_induction newest l with
  | case1 => cases h
  | case2 s rest k _ d hr _ _ ih =>
    cases h
    obtain ⟨t, ht, hk⟩ := ih hr
    exact ⟨t, List.mem_cons_of_mem _ ht, hk⟩
  | case3 s rest k _ _ _ hl _ _ => cases h; exact ⟨s, List.mem_cons_self, k, hl⟩
  | case4 s rest k _ _ hl _ => cases h; exact ⟨s, List.mem_cons_self, k, hl⟩
  | case5 s rest _ _ ih =>
    obtain ⟨t, ht, hk⟩ := ih h
    exact ⟨t, List.mem_cons_of_mem _ ht, hk⟩

theorem le_newest {l : List Slots} {s : Slots} {k : KeyId} {d : Crt} (hs : s ∈ l)
    (hd : load s = .ok k d) : ∃ c, newest l = some c ∧ d.nb ≤ c.nb := by
  -- the result is no earlier than the first bundle's certificate, nor than the rest's newest
  induction hs with
  | head rest =>
    rw [newest, hd]
    cases newest rest with
    | none => exact ⟨d, rfl, Nat.le_refl _⟩
    | some c =>
      dsimp only
      split
      next h => exact ⟨c, rfl, Nat.le_of_lt h⟩
      next => exact ⟨d, rfl, Nat.le_refl _⟩
  | tail s' _ ih =>
    obtain ⟨c, hc, hle⟩ := ih
    rw [newest, hc]
    cases load s' with
    | ok _ c' =>
      dsimp only
      split
      next => exact ⟨c, rfl, hle⟩
      next h => exact ⟨c', rfl, Nat.le_trans hle (Nat.le_of_not_gt h)⟩
    | _ => exact ⟨c, rfl, hle⟩

end CM.Bundle
