import CM.Model.AtomicFile
/-! Inductive invariant of the write-protocol LTS. -/
namespace CM.AtomicFile

/-- the inode a writer has open under its temp name -/
def holds : WPC → Option Nat
  | .writing i => some i
  | .synced i => some i
  | .closed i => some i
  | _ => none

variable {val : Nat → Bytes} {init : Option Bytes} {s : State}

theorem append_take_drop_prefix {p v : Bytes} (h : p <+: v) (n : Nat) :
    p ++ (v.drop p.length).take n <+: v := by
  obtain ⟨t, rfl⟩ := h
  rw [List.drop_left]
  exact (List.prefix_append_right_inj p).mpr (List.take_prefix n t)

theorem current_append (h : List Nat) (w : Nat) :
    current val init (h ++ [w]) = some (val w) := by
  simp [current]

/-- The inode the name is bound to, and every inode a reader has open, is no writer's temp
file (`∀ w, holds (s.w w) ≠ some i` in `dst_ok`, `rd_ok`), so no write changes it and it keeps
the complete value it was renamed with. `a` in `rd_ok`, `done_ok` is the reader's ghost count
of the renames before its open. -/
structure Inv (val : Nat → Bytes) (init : Option Bytes) (s : State) : Prop where
  held_lt  : ∀ w i, holds (s.w w) = some i → i < s.next
  held_inj : ∀ w w' i, holds (s.w w) = some i → holds (s.w w') = some i → w = w'
  dst_ok   : ∀ i, s.dst = some i →
    i < s.next ∧ (∀ w, holds (s.w w) ≠ some i) ∧ some (s.ino i) = current val init s.renamed
  dst_none : s.dst = none → current val init s.renamed = none
  rd_ok    : ∀ r i buf a, s.r r = .reading i buf a →
    i < s.next ∧ (∀ w, holds (s.w w) ≠ some i) ∧ a ≤ s.renamed.length ∧
    some (s.ino i) = current val init (s.renamed.take a) ∧ buf <+: s.ino i
  done_ok  : ∀ r res a, s.r r = .done res a →
    a ≤ s.renamed.length ∧ res = current val init (s.renamed.take a)
  wr_pre   : ∀ w i, s.w w = .writing i → s.ino i <+: val w
  wr_full  : ∀ w i, (s.w w = .synced i ∨ s.w w = .closed i) → s.ino i = val w
  ren_iff  : ∀ w, w ∈ s.renamed ↔ (s.w w = .done ∨ s.w w = .crashedAfter)

theorem inv_init : Inv val init (initState init) := by
  -- everybody is idle; the name is bound to inode 0 exactly if there is an initial value
  refine ⟨nofun, nofun, ?_, ?_, nofun, nofun, nofun, ?_, ?_⟩
  · intro i hi
    cases init with
    | none => cases hi
    | some b => cases hi; exact ⟨Nat.one_pos, nofun, rfl⟩
  · intro h
    cases init with
    | none => rfl
    | some b => cases h
  · rintro w i (h | h) <;> cases h
  · exact fun w => ⟨nofun, fun h => by rcases h with h | h <;> cases h⟩

/-- A step of writer `w` to `pc` that leaves the name, the readers and the order of renames
alone and writes only to `w`'s own temp file or to new inodes. What the invariant says of
the other writers, the destination and the readers carries over, since their inodes are
old and not `w`'s; left to show is what it says of `pc`. -/
theorem inv_writer (I : Inv val init s) (w : Nat) (pc : WPC) (ino' : Nat → Bytes) (n' : Nat)
    (hn : s.next ≤ n')
    (hino : ∀ j, j < s.next → holds (s.w w) ≠ some j → ino' j = s.ino j)
    -- `hcont` before `hown`: the other way round `match pc` would abstract `hown` as well
    (hcont : match pc with
      | .writing j => ino' j <+: val w
      | .synced j | .closed j => ino' j = val w
      | _ => True)
    (hown : match holds pc with
      | some j => j < n' ∧ (holds (s.w w) = some j ∨ s.next ≤ j)
      | none => True)
    (hren : (s.w w = .done ∨ s.w w = .crashedAfter) ↔ (pc = .done ∨ pc = .crashedAfter)) :
    Inv val init { s with ino := ino', next := n', w := upd s.w w pc } := by
  have hown : ∀ j, holds pc = some j → j < n' ∧ (holds (s.w w) = some j ∨ s.next ≤ j) :=
    fun j h => by rw [h] at hown; exact hown
  have hpre : ∀ j, pc = .writing j → ino' j <+: val w := fun j h => by subst h; exact hcont
  have hfull : ∀ j, pc = .synced j ∨ pc = .closed j → ino' j = val w := by
    rintro j (h | h) <;> subst h <;> exact hcont
  have hh : ∀ x j, holds (upd s.w w pc x) = some j →
      j < n' ∧ (holds (s.w x) = some j ∨ (x = w ∧ s.next ≤ j)) :=
    Upd.forall_upd (P := fun x pc => ∀ j, holds pc = some j →
        j < n' ∧ (holds (s.w x) = some j ∨ (x = w ∧ s.next ≤ j)))
      (fun j h => ⟨(hown j h).1, (hown j h).2.imp id (fun h => ⟨rfl, h⟩)⟩)
      (fun x _ j h => ⟨Nat.lt_of_lt_of_le (I.held_lt x j h) hn, Or.inl h⟩)
  have hpub : ∀ j, j < s.next → (∀ x, holds (s.w x) ≠ some j) →
      j < n' ∧ (∀ x, holds (upd s.w w pc x) ≠ some j) ∧ ino' j = s.ino j := by
    intro j hj hnone
    refine ⟨Nat.lt_of_lt_of_le hj hn, fun x hx => ?_, hino j hj (hnone w)⟩
    rcases (hh x j hx).2 with h | ⟨_, h⟩
    · exact hnone x h
    · exact Nat.lt_irrefl _ (Nat.lt_of_lt_of_le hj h)
  have hother : ∀ x j, x ≠ w → holds (s.w x) = some j → ino' j = s.ino j :=
    fun x j hx h => hino j (I.held_lt x j h) (fun hw => hx (I.held_inj x w j h hw))
  refine ⟨fun x j h => (hh x j h).1, ?_, ?_, I.dst_none, ?_, I.done_ok, ?_, ?_, ?_⟩
  · intro x y j hx hy
    rcases (hh x j hx).2 with h1 | ⟨rfl, h1⟩ <;> rcases (hh y j hy).2 with h2 | ⟨rfl, h2⟩
    · exact I.held_inj x y j h1 h2
    · exact absurd (I.held_lt x j h1) (Nat.not_lt.mpr h2)
    · exact absurd (I.held_lt y j h2) (Nat.not_lt.mpr h1)
    · rfl
  · intro i hi
    obtain ⟨h1, h2, h3⟩ := I.dst_ok i hi
    obtain ⟨k1, k2, k3⟩ := hpub i h1 h2
    exact ⟨k1, k2, by rwa [← k3] at h3⟩
  · intro r i buf a hr
    obtain ⟨h1, h2, h3, h4, h5⟩ := I.rd_ok r i buf a hr
    obtain ⟨k1, k2, k3⟩ := hpub i h1 h2
    exact ⟨k1, k2, h3, by rwa [← k3] at h4, by rwa [← k3] at h5⟩
  · exact Upd.forall_upd (P := fun x (pc : WPC) => ∀ j, pc = .writing j → ino' j <+: val x) hpre
      (fun x hx j h => hother x j hx (by rw [h]; rfl) ▸ I.wr_pre x j h)
  · exact Upd.forall_upd (P := fun x (pc : WPC) => ∀ j, pc = .synced j ∨ pc = .closed j → ino' j = val x) hfull
      (fun x hx j h => hother x j hx (by rcases h with h | h <;> rw [h] <;> rfl) ▸ I.wr_full x j h)
  · exact Upd.forall_upd (P := fun x (pc : WPC) => x ∈ s.renamed ↔ pc = .done ∨ pc = .crashedAfter)
      ((I.ren_iff w).trans hren) (fun x _ => I.ren_iff x)

theorem inv_write (I : Inv val init s) (w i : Nat) (hw : s.w w = .writing i) (c : Bytes) (hc : c <+: val w) :
    Inv val init { s with ino := upd s.ino i c } := by
  have hold : holds (s.w w) = some i := by rw [hw]; rfl
  have h := inv_writer I w (.writing i) (upd s.ino i c) s.next (Nat.le_refl _)
    (fun j _ hj => upd_other (fun e => hj (e ▸ hold)))
    (by simp only [upd_same]; exact hc) ⟨I.held_lt w i hold, Or.inl hold⟩ (by rw [hw])
  rwa [← hw, upd_self] at h

theorem inv_rename (I : Inv val init s) (w i : Nat) (hw : s.w w = .closed i) :
    Inv val init { s with dst := some i, w := upd s.w w .done, renamed := s.renamed ++ [w] } := by
  have hold : holds (s.w w) = some i := by rw [hw]; rfl
  have hh : ∀ x j, holds (upd s.w w .done x) = some j → holds (s.w x) = some j ∧ x ≠ w :=
    Upd.forall_upd (P := fun x pc => ∀ j, holds pc = some j → holds (s.w x) = some j ∧ x ≠ w)
      nofun (fun x hx j h => ⟨h, hx⟩)
  have hlen : ∀ a, a ≤ s.renamed.length → a ≤ (s.renamed ++ [w]).length :=
    fun a ha => by rw [List.length_append]; exact Nat.le_add_right_of_le ha
  refine ⟨fun x j hx => I.held_lt x j (hh x j hx).1,
    fun x y j hx hy => I.held_inj x y j (hh x j hx).1 (hh y j hy).1, ?_, nofun, ?_, ?_, ?_, ?_, ?_⟩
  · intro j hj
    cases hj
    refine ⟨I.held_lt w i hold, fun x hx => (hh x i hx).2 (I.held_inj x w i (hh x i hx).1 hold), ?_⟩
    rw [current_append, I.wr_full w i (Or.inr hw)]
  · intro r j buf a hr
    obtain ⟨h1, h2, h3, h4, h5⟩ := I.rd_ok r j buf a hr
    exact ⟨h1, fun x hx => h2 x (hh x j hx).1, hlen a h3, (List.take_append_of_le_length h3).symm ▸ h4, h5⟩
  · intro r res a hr
    obtain ⟨h1, h2⟩ := I.done_ok r res a hr
    exact ⟨hlen a h1, (List.take_append_of_le_length h1).symm ▸ h2⟩
  · exact Upd.forall_upd (P := fun x (pc : WPC) => ∀ i, pc = .writing i → s.ino i <+: val x) nofun
      (fun x _ => I.wr_pre x)
  · exact Upd.forall_upd (P := fun x (pc : WPC) => ∀ i, pc = .synced i ∨ pc = .closed i → s.ino i = val x)
      (by simp) (fun x _ => I.wr_full x)
  · refine Upd.forall_upd (P := fun x (pc : WPC) => x ∈ s.renamed ++ [w] ↔ pc = .done ∨ pc = .crashedAfter)
      (by simp) (fun x hx => ?_)
    rw [List.mem_append, List.mem_singleton, ← I.ren_iff x]
    exact or_iff_left hx

theorem inv_read (I : Inv val init s) (r : Nat) {pc : RPC}
    (hpc : match pc with
      | .idle => True
      | .reading i buf a => i < s.next ∧ (∀ w, holds (s.w w) ≠ some i) ∧ a ≤ s.renamed.length ∧
          some (s.ino i) = current val init (s.renamed.take a) ∧ buf <+: s.ino i
      | .done res a => a ≤ s.renamed.length ∧ res = current val init (s.renamed.take a)) :
    Inv val init { s with r := upd s.r r pc } := by
  refine ⟨I.held_lt, I.held_inj, I.dst_ok, I.dst_none, ?_, ?_, I.wr_pre, I.wr_full, I.ren_iff⟩
  · intro x i buf a
    exact Upd.forall_upd (P := fun _ (pc : RPC) => pc = .reading i buf a → _) (fun h => by subst h; exact hpc)
      (fun x _ => I.rd_ok x i buf a) x
  · intro x res a
    exact Upd.forall_upd (P := fun _ (pc : RPC) => pc = .done res a → _) (fun h => by subst h; exact hpc)
      (fun x _ => I.done_ok x res a) x

theorem inv_step {val : Nat → Bytes} {init : Option Bytes} {s s' : State} {e : Ev}
    (I : Inv val init s) (h : step val s e = some s') : Inv val init s' := by
  revert h
  -- one goal per leaf of `step`, in the order of its definition; `cases h` closes the refusals
  fun_cases step val s e
  all_goals intro h; cases h
  next w hw =>
    exact inv_writer I w (.writing s.next) _ _ (Nat.le_succ _) (fun j hj _ => upd_other (Nat.ne_of_lt hj))
      (by simp only [upd_same]; exact List.nil_prefix) ⟨Nat.lt_succ_self _, Or.inr (Nat.le_refl _)⟩
      (by rw [hw]; simp)
  next w n i hw _ _ => exact inv_write I w i hw _ (append_take_drop_prefix (I.wr_pre w i hw) n)
  next w i hw =>
    exact inv_writer I w .cancelled _ _ (Nat.le_refl _) (fun _ _ _ => rfl) trivial trivial (by rw [hw]; simp)
  next w i hw hlen =>
    have hold : holds (s.w w) = some i := by rw [hw]; rfl
    exact inv_writer I w (.synced i) _ _ (Nat.le_refl _) (fun _ _ _ => rfl)
      ((I.wr_pre w i hw).eq_of_length hlen) ⟨I.held_lt w i hold, Or.inl hold⟩ (by rw [hw]; simp)
  next w i hw =>
    have hold : holds (s.w w) = some i := by rw [hw]; rfl
    exact inv_writer I w (.closed i) _ _ (Nat.le_refl _) (fun _ _ _ => rfl)
      (I.wr_full w i (Or.inl hw)) ⟨I.held_lt w i hold, Or.inl hold⟩ (by rw [hw]; simp)
  next w i hw => exact inv_rename I w i hw
  -- killed before its rename (writing, synced, closed) or after it (done): alike
  iterate 4
    next hw =>
      exact inv_writer I _ _ _ _ (Nat.le_refl _) (fun _ _ _ => rfl) (by trivial) (by trivial) (by rw [hw]; simp)
  next r _ i hd =>
    obtain ⟨h1, h2, h3⟩ := I.dst_ok i hd
    exact inv_read I r ⟨h1, h2, Nat.le_refl _, by rw [List.take_length]; exact h3, List.nil_prefix⟩
  next r _ hd =>
    exact inv_read I r ⟨Nat.le_refl _, by rw [List.take_length]; exact (I.dst_none hd).symm⟩
  next r n i buf a hr _ =>
    obtain ⟨h1, h2, h3, h4, h5⟩ := I.rd_ok r i buf a hr
    exact inv_read I r ⟨h1, h2, h3, h4, append_take_drop_prefix h5 n⟩
  next r i buf a hr hlen =>
    obtain ⟨_, _, h3, h4, h5⟩ := I.rd_ok r i buf a hr
    exact inv_read I r ⟨h3, by rw [← h4, List.IsPrefix.eq_of_length_le h5 hlen]⟩

theorem inv_reachable (h : Reachable val init s) : Inv val init s := by
  induction h with
  | init => exact inv_init
  | step _ hs ih => exact inv_step ih hs

end CM.AtomicFile
