import CM.Model.Safe
/-!
Lemmas for C11. For each of the five stages of `safe`: where the characters of its output
come from, and which inputs it leaves alone; `mem_safe` and `safe_eq_self` compose them.
The path lemmas speak of an arbitrary element without `/` that is not `..`, which is all
the builders use of `safe`.
-/
namespace CM.Safe

/-- executable "contains `..`"; `Drv.C11.specSafe` judges the real outputs with it -/
def hasDD : Str → Bool
  | [] => false
  | [_] => false
  | c :: d :: rest => if c = '.' ∧ d = '.' then true else hasDD (d :: rest)

theorem stripDD_sublist (s : Str) : (stripDD s).Sublist s := by
  fun_induction stripDD s with
  | case1 => exact .slnil
  | case2 c => exact .refl _
  | case3 c d r _ ih => exact (ih.cons d).cons c
  | case4 c d r _ ih => exact ih.cons_cons c

theorem stripDD_cons_of_ne {c : Char} (h : c ≠ '.') (r : Str) :
    stripDD (c :: r) = c :: stripDD r := by
  cases r with
  | nil => rfl
  | cons d r => simp [stripDD, h]

theorem hasDD_cons_of_ne {c : Char} (h : c ≠ '.') (r : Str) : hasDD (c :: r) = hasDD r := by
  cases r with
  | nil => rfl
  | cons d r => simp [hasDD, h]

theorem stripDD_noDD (s : Str) : hasDD (stripDD s) = false := by
  fun_induction stripDD s with
  | case1 | case2 => rfl
  | case3 c d r _ ih => exact ih
  | case4 c d r h ih =>
    -- `c` is kept in front of `stripDD (d :: r)`: if `c` is a dot then `d` is not one and
    -- is kept in its turn, otherwise `c` starts no `..`
    by_cases hc : c = '.'
    · have hd : d ≠ '.' := fun hd => h ⟨hc, hd⟩
      rw [stripDD_cons_of_ne hd] at ih ⊢
      simpa [hasDD, hd] using ih
    · rw [hasDD_cons_of_ne hc]
      exact ih

theorem stripDD_id_of_noDD (s : Str) (h : hasDD s = false) : stripDD s = s := by
  fun_induction stripDD s with
  | case1 | case2 => rfl
  | case3 c d r hcd ih => simp [hasDD, hcd] at h
  | case4 c d r hcd ih =>
    simp only [hasDD, hcd, if_false] at h
    rw [ih h]

theorem hasDD_iff_infix (s : Str) : hasDD s = true ↔ dotdot <:+: s := by
  fun_induction hasDD s with
  | case1 => simp [dotdot]
  | case2 c => simp [dotdot, List.infix_cons_iff]
  | case3 c d r h => simp [List.infix_cons_iff, dotdot, h]
  | case4 c d r h ih =>
    rw [ih, List.infix_cons_iff (a := c)]
    simp [dotdot, h, eq_comm]

theorem trim_sublist (sp : Char → Bool) (s : Str) : (trim sp s).Sublist s :=
  List.reverse_sublist.mp <| by
    rw [trim, List.reverse_reverse]
    exact (List.dropWhile_sublist sp).trans (List.dropWhile_sublist sp).reverse

theorem dropWhile_id_of_forall {α} (p : α → Bool) :
    ∀ (l : List α), (∀ x ∈ l, p x = false) → l.dropWhile p = l
  | [], _ => rfl
  | a :: l, h => by simp [List.dropWhile, h a (by simp)]

theorem trim_id_of_forall (sp : Char → Bool) (l : Str) (h : ∀ x ∈ l, sp x = false) :
    trim sp l = l := by
  rw [trim, dropWhile_id_of_forall sp l h,
    dropWhile_id_of_forall sp l.reverse (fun x hx => h x (List.mem_reverse.mp hx)),
    List.reverse_reverse]

/-! All that is used of the table `pairs`: -/

theorem pairs_key_not_keep : ∀ p ∈ pairs, keep p.1 = false := by decide +kernel

theorem pairs_val_not_upper : ∀ p ∈ pairs, ∀ x ∈ p.2.toList, isUpperA x = false := by
  decide +kernel

theorem replC_of_keep {c : Char} (h : keep c = true) : replC c = [c] := by
  have : pairs.lookup c = none :=
    List.lookup_eq_none_iff.mpr fun p hp =>
      bne_iff_ne.mpr fun e => by
        have := pairs_key_not_keep p hp
        rw [← e, h] at this
        cases this
  simp [replC, this]

theorem repl_id_of_keep (l : Str) (h : ∀ x ∈ l, keep x = true) : repl l = l :=
  (congrArg List.flatten (List.map_congr_left fun x hx => replC_of_keep (h x hx))).trans
    (List.flatMap_singleton' l)

theorem replC_not_upper {c x : Char} (hx : x ∈ replC c) (hc : isUpperA c = false) :
    isUpperA x = false := by
  unfold replC at hx
  split at hx
  · rename_i n hn
    obtain ⟨l₁, l₂, hl, _⟩ := List.lookup_eq_some_iff.mp hn
    exact pairs_val_not_upper (c, n) (by simp [hl]) x hx
  · rw [List.mem_singleton.mp hx]
    exact hc

theorem filt_id_of_keep (l : Str) (h : ∀ x ∈ l, keep x = true) : filt l = l :=
  List.filter_eq_self.mpr h

theorem mem_safe {E : Env} {s : Str} {c : Char} (h : c ∈ safe E s) :
    keep c = true ∧ ∃ a ∈ s, c ∈ replC (E.lower a) := by
  obtain ⟨h1, hk⟩ := List.mem_filter.mp ((stripDD_sublist _).subset h)
  obtain ⟨b, hb, hcb⟩ := List.mem_flatMap.mp h1
  obtain ⟨a, ha, rfl⟩ := List.mem_map.mp ((trim_sublist _ _).subset hb)
  exact ⟨hk, a, ha, hcb⟩

theorem safe_noDD (E : Env) (s : Str) : hasDD (safe E s) = false := stripDD_noDD _

theorem not_mem_safe {c : Char} (h : keep c = false) (E : Env) (s : Str) : c ∉ safe E s :=
  fun hc => by
    rw [(mem_safe hc).1] at h
    cases h

theorem safe_not_upper (E : Env) (hE : E.Good) (s : Str) :
    ∀ c ∈ safe E s, isUpperA c = false := by
  intro c hc
  obtain ⟨_, a, _, hca⟩ := mem_safe hc
  exact replC_not_upper hca (hE.lower_not_upper a)

theorem safe_eq_self (E : Env) (hE : E.Good) (o : Str) (hk : ∀ c ∈ o, keep c = true)
    (hu : ∀ c ∈ o, isUpperA c = false) (hd : hasDD o = false) : safe E o = o := by
  have h1 : o.map E.lower = o :=
    (List.map_congr_left fun c hc => hE.lower_fix c (hk c hc) (hu c hc)).trans (List.map_id o)
  have h2 : trim E.isSpace o = o :=
    trim_id_of_forall _ _ fun c hc => hE.keep_not_space c (hk c hc)
  rw [safe, h1, h2, repl_id_of_keep o hk, filt_id_of_keep o hk, stripDD_id_of_noDD o hd]

theorem safe_no_slash (E : Env) (s : Str) : '/' ∉ safe E s := not_mem_safe (by decide) E s

theorem safe_ne_dotdot (E : Env) (s : Str) : safe E s ≠ dotdot := by
  intro h
  have := safe_noDD E s
  rw [h] at this
  cases this

/-- a component that the lexical clean appends as it is -/
structure plainComp (c : Str) : Prop where
  ne_nil : c ≠ []
  ne_dot : c ≠ dot
  ne_dotdot : c ≠ dotdot
  no_slash : '/' ∉ c

theorem plainComp_of_length {c : Str} (hl : 3 ≤ c.length) (hs : '/' ∉ c) : plainComp c where
  ne_nil e := by simp [e] at hl
  ne_dot e := by simp [e, dot] at hl
  ne_dotdot e := by simp [e, dotdot] at hl
  no_slash := hs

theorem splitSlash_of_no_slash (s : Str) (h : '/' ∉ s) : splitSlash s = [s] := by
  induction s with
  | nil => rfl
  | cons c cs ih =>
    rw [splitSlash, if_neg (List.ne_of_not_mem_cons h).symm, ih (List.not_mem_of_not_mem_cons h)]

theorem pushComp_plain (rooted : Bool) (stack : List Str) {c : Str} (h : plainComp c) :
    pushComp rooted stack c = stack ++ [c] := by
  simp [pushComp, h.ne_nil, h.ne_dot, h.ne_dotdot]

theorem filename_plain (root key : List Str) (h : ∀ c ∈ key, plainComp c) :
    filename root key = root ++ key := by
  induction key generalizing root with
  | nil => simp [filename]
  | cons c cs ih =>
    rw [filename, List.foldl_cons, pushComp_plain true root (h c (by simp)), ← filename,
      ih _ (fun x hx => h x (List.mem_cons_of_mem _ hx)), List.append_assoc]
    rfl

theorem joinRaw_of_no_slash (base : List Str) {e : Str} (hs : '/' ∉ e) (hd : e ≠ dotdot) :
    joinRaw base e = if e = [] ∨ e = dot then base else base ++ [e] := by
  simp [joinRaw, splitSlash_of_no_slash e hs, pushComp, hd]

theorem joinRaw_plain {base : List Str} {e : Str} (h : plainComp e) :
    joinRaw base e = base ++ [e] := by
  rw [joinRaw_of_no_slash base h.no_slash h.ne_dotdot, if_neg (not_or.mpr ⟨h.ne_nil, h.ne_dot⟩)]

theorem prefix_joinRaw {base : List Str} {e : Str} (hs : '/' ∉ e) (hd : e ≠ dotdot) :
    base <+: joinRaw base e := by
  rw [joinRaw_of_no_slash base hs hd]
  split
  · exact List.prefix_refl _
  · exact List.prefix_append _ _

theorem joinRaw_allPlain {base : List Str} {e : Str} (hs : '/' ∉ e) (hd : e ≠ dotdot)
    (hb : ∀ c ∈ base, plainComp c) : ∀ c ∈ joinRaw base e, plainComp c := by
  rw [joinRaw_of_no_slash base hs hd]
  split
  · exact hb
  · next h =>
    exact List.forall_mem_append.mpr ⟨hb, List.forall_mem_singleton.mpr
      { ne_nil := fun e => h (.inl e), ne_dot := fun e => h (.inr e), ne_dotdot := hd, no_slash := hs }⟩

theorem plainComp_safe_append (E : Env) (s : Str) {ext : Str} (hext : '/' ∉ ext)
    (hlen : 3 ≤ ext.length) : plainComp (safe E s ++ ext) :=
  plainComp_of_length (by rw [List.length_append]; omega)
    (fun h => (List.mem_append.mp h).elim (safe_no_slash E s) hext)

theorem certsPrefix_plain (E : Env) (issuer : Str) : ∀ c ∈ certsPrefix E issuer, plainComp c :=
  joinRaw_allPlain (safe_no_slash E issuer) (safe_ne_dotdot E issuer)
    (List.forall_mem_singleton.mpr (plainComp_of_length (by decide +kernel) (by decide +kernel)))

theorem certsSitePrefix_plain (E : Env) (issuer domain : Str) :
    ∀ c ∈ certsSitePrefix E issuer domain, plainComp c :=
  joinRaw_allPlain (safe_no_slash E domain) (safe_ne_dotdot E domain) (certsPrefix_plain E issuer)

theorem siteAsset_plain (E : Env) (ext : String) (hext : '/' ∉ ext.toList)
    (hlen : 3 ≤ ext.toList.length) (issuer domain : Str) :
    ∀ c ∈ siteAsset E ext issuer domain, plainComp c :=
  have h := plainComp_safe_append E domain hext hlen
  joinRaw_allPlain h.no_slash h.ne_dotdot (certsSitePrefix_plain E issuer domain)

end CM.Safe
