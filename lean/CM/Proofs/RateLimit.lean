import CM.Model.RateLimit
import CM.Lib.Upd
/-!
C17's invariants. `CM.RateLimit.Abs` is the rate limiter seen through the *rotated view* of
its ring (oldest first from the cursor; `record` = drop the head, append) with ANY new view
allowed at `setMax`: what is proved there — the invariant `AInv`, which contains the
sliding-window bound — does not depend on the copy logic of `SetMaxEvents` at all. The
concrete model (`CM.RateLimit.step`: ring + cursor + waiters) refines it, which carries
`AInv` over to every reachable state.
After `Abs`: the ring's rotation (`view`) and what the copy loops of `SetMaxEvents` compute
(`resize_eq_spec`); what a step does (`Loop`, `Effect`), the refinement and the invariants
about the waiters (`WInv`) and the clock (`PInv`), bundled in `Inv`; then what the property
file needs beyond `Inv`: `boundOK_run`, `count_window`, zeros first (`ZInv`).
-/
namespace CM.RateLimit

/-- any `N + 1` consecutive entries of `l` (instants, newest first) span at least `W`: the
sliding-window bound, as `Abs.Bound`, `checkAdm` and `C17_bound` spell it out -/
def Spaced (N W : Nat) (l : List Nat) : Prop :=
  ∀ (i x y : Nat), l[i]? = some x → l[i + N]? = some y → y + W ≤ x

theorem spaced_cons {N W x : Nat} {l : List Nat} :
    Spaced N W (x :: l) ↔ (∀ y, (x :: l)[N]? = some y → y + W ≤ x) ∧ Spaced N W l := by
  constructor
  · intro h
    exact ⟨fun y hy => h 0 x y rfl (by rw [Nat.zero_add]; exact hy),
      fun i a b ha hb => h (i + 1) a b ha (by rw [Nat.add_right_comm]; exact hb)⟩
  · rintro ⟨h0, h⟩ i a b ha hb
    cases i with
    | zero => cases ha; rw [Nat.zero_add] at hb; exact h0 b hb
    | succ k => rw [Nat.add_right_comm] at hb; exact h k a b ha hb

end CM.RateLimit

namespace CM.RateLimit.Abs

structure ASt where
  view  : List (Option Nat)   -- ring read from the cursor, oldest first
  W     : Nat
  now   : Nat
  phase : Phase
  adm   : List Nat            -- ghost: hand-off times since last config change, newest first
  recs  : List Nat            -- ghost: record times since last config change, newest first

inductive AEv
  | tick (d : Nat) | compute | fire | handoff | record
  | setMax (v : List (Option Nat)) | setWindow (w : Nat)
  | halt (ph : Phase)   -- the loop goroutine ends (stop, or its own panic) from phase `ph`

def astep (s : ASt) : AEv → Option ASt
  | .tick d => some { s with now := s.now + d }
  | .compute => match s.phase with
      | .idle => match s.view with
          | [] => some { s with phase := .offering true }
          | none :: _ => some { s with phase := .sleeping 0 true }
          | some t :: _ => some { s with phase := .sleeping (t + s.W) true }
      | _ => none
  | .fire => match s.phase with
      | .sleeping t f => if t ≤ s.now then some { s with phase := .offering f } else none
      | _ => none
  | .handoff => match s.phase with
      | .offering _ => some { s with phase := .recording true, adm := s.now :: s.adm }
      | _ => none
  | .record => match s.phase with
      | .recording _ =>
          some { s with phase := .idle,
                        view := if s.view = [] then [] else s.view.tail ++ [some s.now],
                        recs := s.now :: s.recs }
      | _ => none
  | .setMax v => if v = [] ∧ s.W ≠ 0 then none else
      some { s with view := v, phase := stale s.phase, adm := [], recs := [] }
  | .setWindow w => if s.view = [] ∧ w ≠ 0 then none else
      some { s with W := w, phase := stale s.phase, adm := [], recs := [] }
  | .halt ph => if s.phase = ph ∧ ph ≠ .recording true then some { s with phase := .stopped } else none

/-- the property: any N+1 consecutive admissions since the last change span at least W
(`Spaced s.view.length s.W s.adm` written out; the proofs use it as that) -/
def Bound (s : ASt) : Prop :=
  ∀ (i x y : Nat), s.adm[i]? = some x → s.adm[i + s.view.length]? = some y → y + s.W ≤ x

/-- the hand-offs whose `record` may already have been made: all of `adm`, minus the one in
progress while `recording true` -/
def counted (s : ASt) : List Nat :=
  match s.phase with
  | .recording true => s.adm.tail
  | _ => s.adm

structure AInv (s : ASt) : Prop where
  bound : Bound s
  zero  : s.view = [] → s.W = 0                 -- limiting disabled only with a zero window
  -- read from its newest end the view is `recs`, as far as both reach
  view  : ∀ i, i < s.view.length → i < s.recs.length → s.view[s.view.length - 1 - i]? = some s.recs[i]?
  -- records pair off with the counted hand-offs (one more if a ticket handed off before the
  -- change was recorded after it) and none is earlier than its hand-off
  pairL : (counted s).length ≤ s.recs.length ∧ s.recs.length ≤ (counted s).length + 1
  pairE : ∀ (i x y : Nat), (counted s)[i]? = some x → s.recs[i]? = some y → x ≤ y
  past  : ∀ x ∈ s.adm, x ≤ s.now
  -- an iteration computed before a change of configuration finds empty books
  stl   : (s.phase = .offering false ∨ s.phase = .recording false ∨ ∃ t, s.phase = .sleeping t false) →
            s.adm = [] ∧ s.recs = []
  rec1  : s.phase = .recording true → s.adm ≠ []   -- the hand-off being recorded is on the books
  -- `slp`, `off`: the timer of an iteration computed in this period waits a window after the record `N` back
  slp   : ∀ t, s.phase = .sleeping t true → ∀ (y : Nat), s.recs[s.view.length - 1]? = some y → 0 < s.view.length → y + s.W ≤ t
  off   : s.phase = .offering true → ∀ (y : Nat), s.recs[s.view.length - 1]? = some y → 0 < s.view.length → y + s.W ≤ s.now

theorem counted_eq_adm (s : ASt) (h : s.phase ≠ .recording true) : counted s = s.adm := by
  fun_cases counted s with
  | case1 hp => exact absurd hp h
  | case2 => rfl

/-- initially and right after a change of configuration: with empty books every field is
vacuous or immediate; `hp` is needed for `rec1` and to make `counted` the (empty) `adm` -/
theorem inv_of_empty {v : List (Option Nat)} {W now : Nat} {ph : Phase} (hg : ¬ (v = [] ∧ W ≠ 0))
    (hp : ph ≠ .recording true) : AInv ⟨v, W, now, ph, [], []⟩ := by
  refine ⟨?_, fun hv => Decidable.byContradiction fun hw => hg ⟨hv, hw⟩, ?_, ?_, ?_, nofun,
    fun _ => ⟨rfl, rfl⟩, fun h => absurd h hp, ?_, ?_⟩
  · intro i x y hx; cases hx
  · intro i _ hi; cases hi
  · rw [counted_eq_adm _ hp]; exact ⟨Nat.le_refl 0, Nat.zero_le 1⟩
  · intro i x y _ hy; cases hy
  · intro t _ y hy; cases hy
  · intro _ y hy; cases hy

theorem stale_ne_counted (p : Phase) : stale p ≠ .recording true := by cases p <;> simp [stale]

/-- once a full ring of records has been made in the period, the oldest slot holds the record `N` back -/
theorem AInv.oldest {s : ASt} (hi : AInv s) {y : Nat} (hy : s.recs[s.view.length - 1]? = some y)
    (hn : 0 < s.view.length) : s.view[0]? = some (some y) := by
  have := hi.view (s.view.length - 1) (Nat.sub_lt hn Nat.one_pos) (List.getElem?_eq_some_iff.mp hy).1
  rwa [Nat.sub_self, hy] at this

variable {v : List (Option Nat)} {W now : Nat} {adm recs : List Nat}

/-- the heart of C17: while the ticket is on offer there is room for one more admission now.
The admission `N` places back precedes its record, and the timer waited a window after that
record; an iteration computed before a change of configuration finds no admission on the books. -/
theorem AInv.room {f : Bool} (hi : AInv ⟨v, W, now, .offering f, adm, recs⟩) {y : Nat}
    (hy : (now :: adm)[v.length]? = some y) : y + W ≤ now := by
  cases hN : v.length with
  | zero =>
    rw [hN] at hy; cases hy
    have hW : W = 0 := hi.zero (List.eq_nil_of_length_eq_zero hN)
    rw [hW]; exact Nat.le_refl _
  | succ m =>
    rw [hN, List.getElem?_cons_succ] at hy
    cases f with
    | false =>
      have ha : adm = [] := (hi.stl (.inl rfl)).1
      rw [ha] at hy; cases hy
    | true =>
      have hm : m < recs.length := Nat.lt_of_lt_of_le (List.getElem?_eq_some_iff.mp hy).1 hi.pairL.1
      have hr : recs[m]? = some recs[m] := List.getElem?_eq_getElem hm
      have h2 := hi.off rfl recs[m] (by rw [hN]; exact hr) (by rw [hN]; exact Nat.succ_pos m)
      exact Nat.le_trans (Nat.add_le_add_right (hi.pairE m y _ hy hr) _) h2

theorem AInv.handoff {f : Bool} (hi : AInv ⟨v, W, now, .offering f, adm, recs⟩) :
    AInv ⟨v, W, now, .recording true, now :: adm, recs⟩ :=
  -- `counted` of the new state is `(now :: adm).tail`, the old `adm`: `pairL`, `pairE` are the old ones
  { hi with
    bound := spaced_cons.mpr ⟨fun _ => hi.room, hi.bound⟩
    past := List.forall_mem_cons.mpr ⟨Nat.le_refl _, hi.past⟩
    stl := nofun, rec1 := fun _ => List.cons_ne_nil _ _, slp := nofun, off := nofun }

/-- the view after a `record`, without the case distinction -/
theorem record_view (v : List (Option Nat)) (x : Option Nat) :
    (if v = [] then [] else v.tail ++ [x]) = (v ++ [x]).tail := by
  cases v <;> rfl

theorem record_view_length (v : List (Option Nat)) (x : Option Nat) : (v ++ [x]).tail.length = v.length := by
  rw [List.length_tail, List.length_append]; rfl

/-- the view after a `record`, read from its newest end as `AInv.view` reads it: the new entry, then the old view -/
theorem record_view_rev (v : List (Option Nat)) (x : Option Nat) {i : Nat} (h : i < v.length) :
    (v ++ [x]).tail[v.length - 1 - i]? = (x :: v.reverse)[i]? := by
  have hl := record_view_length v x
  have hi : i < (x :: v.reverse).length - 1 := by rw [List.length_cons, List.length_reverse]; exact h
  rw [← hl, ← List.getElem?_reverse (hl ▸ h), ← List.dropLast_reverse, List.reverse_concat,
    List.getElem?_dropLast, if_pos hi]

theorem AInv.record {c : Bool} (hi : AInv ⟨v, W, now, .recording c, adm, recs⟩) :
    AInv ⟨(v ++ [some now]).tail, W, now, .idle, adm, now :: recs⟩ := by
  have hlen := record_view_length v (some now)
  -- counted or not, the hand-offs whose record has been made are `adm.tail`, and there are
  -- no more records than hand-offs
  have hct : counted ⟨v, W, now, .recording c, adm, recs⟩ = adm.tail ∧ recs.length ≤ adm.length := by
    cases c with
    | true =>
      obtain ⟨a, tl, rfl⟩ := List.exists_cons_of_ne_nil (hi.rec1 rfl)
      exact ⟨rfl, hi.pairL.2⟩
    | false =>
      obtain ⟨rfl, rfl⟩ : adm = [] ∧ recs = [] := hi.stl (.inr (.inl rfl))
      exact ⟨rfl, Nat.le_refl 0⟩
  refine ⟨?_, ?_, ?_, ?_, ?_, hi.past, nofun, nofun, nofun, nofun⟩
  · intro i x y hx hy
    exact hi.bound i x y hx (by rw [← hlen]; exact hy)
  · intro hv
    exact hi.zero (List.eq_nil_of_length_eq_zero (by rw [← hlen]; exact congrArg List.length hv))
  · intro i hi1 hi2
    have hi1' : i < v.length := by rw [← hlen]; exact hi1
    rw [hlen, record_view_rev _ _ hi1']
    cases i with
    | zero => rfl
    | succ k =>
      rw [List.getElem?_cons_succ, List.getElem?_reverse (Nat.lt_of_succ_lt hi1')]
      exact hi.view k (Nat.lt_of_succ_lt hi1') (Nat.lt_of_succ_lt_succ hi2)
  · have h1 := hi.pairL.1
    rw [hct.1, List.length_tail] at h1
    exact ⟨Nat.le_add_of_sub_le h1, Nat.succ_le_succ hct.2⟩
  · intro i x y hx hy
    cases i with
    | zero => cases hy; exact hi.past x (List.mem_of_getElem? hx)
    | succ k => exact hi.pairE k x y (by rw [hct.1, List.getElem?_tail]; exact hx) hy

theorem inv_step {s s' : ASt} {e : AEv} (hi : AInv s) (h : astep s e = some s') : AInv s' := by
  revert h
  -- one goal per leaf of `astep`, in the order of its definition; `cases h` closes the refusals
  fun_cases astep s e
  all_goals intro h; cases h
  next d =>
    exact { hi with
      past := fun x hx => Nat.le_trans (hi.past x hx) (Nat.le_add_right _ _)
      off := fun hp y hy hn => Nat.le_trans (hi.off hp y hy hn) (Nat.le_add_right _ _) }
  -- compute, fire, halt change the phase alone. With a constructor for it on both sides `counted` computes,
  -- and every field that is not about the phase is the old one as it stands
  next hp hv =>
    cases s; cases hp; cases hv
    exact { hi with stl := nofun, rec1 := nofun, slp := nofun, off := nofun }
  next hp tl hv =>
    cases s; cases hp
    refine { hi with stl := nofun, rec1 := nofun, off := nofun, slp := ?_ }
    intro t _ y hy hn
    have := hi.oldest hy hn
    rw [hv] at this; cases this
  next hp t tl hv =>
    cases s; cases hp
    refine { hi with stl := nofun, rec1 := nofun, off := nofun, slp := ?_ }
    intro t' hp' y hy hn
    have := hi.oldest hy hn
    rw [hv] at this; cases this; cases hp'
    exact Nat.le_refl _
  next t f hp hle =>
    cases s; cases hp
    refine { hi with rec1 := nofun, slp := nofun, stl := ?_, off := ?_ }
    · intro hp'
      have : f = false := by rcases hp' with hp' | hp' | ⟨t', hp'⟩ <;> cases hp'; rfl
      subst this
      exact hi.stl (Or.inr (Or.inr ⟨t, rfl⟩))
    · intro hp' y hy hn
      cases hp'
      exact Nat.le_trans (hi.slp t rfl y hy hn) hle
  next f hp => cases s; cases hp; exact hi.handoff
  next c hp => cases s; cases hp; rw [record_view]; exact hi.record
  next v hg => exact inv_of_empty hg (stale_ne_counted _)
  next w hg => exact inv_of_empty hg (stale_ne_counted _)
  next ph hg =>
    have hc := counted_eq_adm s (hg.1 ▸ hg.2)
    exact { hi with pairL := hc ▸ hi.pairL, pairE := hc ▸ hi.pairE, stl := nofun, rec1 := nofun, slp := nofun, off := nofun }

end CM.RateLimit.Abs

/-!
`view l c` is `l` rotated left by `c`, so a rotated view is again a `view`: moving the cursor is
stated as `view (view l c) d` throughout, and no proof below compares lists index by index. -/
namespace CM.RateLimit

theorem view_length (l : List (Option Nat)) (c : Nat) : (view l c).length = l.length := by
  rw [view, List.length_append, Nat.add_comm, ← List.length_append, List.take_append_drop]

theorem view_nil (c : Nat) : view [] c = [] := by simp [view]

theorem view_zero (l : List (Option Nat)) : view l 0 = l := by simp [view]

theorem view_eq_nil {l : List (Option Nat)} {c : Nat} : view l c = [] ↔ l = [] := by
  rw [← List.length_eq_zero_iff, view_length, List.length_eq_zero_iff]

theorem mem_view {l : List (Option Nat)} {c : Nat} {x : Option Nat} : x ∈ view l c ↔ x ∈ l := by
  rw [view, List.mem_append, Or.comm, ← List.mem_append, List.take_append_drop]

theorem view_head {l : List (Option Nat)} {c : Nat} (h : c < l.length) :
    view l c = l.getD c none :: (l.drop (c + 1) ++ l.take c) := by
  rw [List.getD_eq_getElem?_getD, List.getElem?_eq_getElem h]
  simp only [view, List.drop_eq_getElem_cons h, List.cons_append, Option.getD_some]

theorem view_succ {v : List (Option Nat)} {d : Nat} (h : d < v.length) :
    view v (d + 1) = view (view v d) 1 := by
  simp only [view, List.drop_eq_getElem_cons h, List.cons_append, List.drop_succ_cons, List.drop_zero,
    List.take_succ_cons, List.take_zero, List.append_assoc, List.take_append_getElem h]

/-- `advance` is `+ 1` unless that is the ring's length, and the view from there is the view from 0 -/
theorem view_advance {l : List (Option Nat)} {c : Nat} (h : c < l.length) :
    view l (advance l.length c) = view (view l c) 1 := by
  rw [← view_succ h]
  fun_cases advance l.length c with
  | case1 hge =>
    rw [show c + 1 = l.length from Nat.le_antisymm h hge, view_zero, view, List.drop_length, List.take_length,
      List.nil_append]
  | case2 => rfl

theorem view_set {l : List (Option Nat)} {c : Nat} (h : c < l.length) (x : Option Nat) :
    view (l.set c x) c = x :: (view l c).tail := by
  rw [view_head (by rw [List.length_set]; exact h), view_head h, List.tail_cons,
    List.drop_set_of_lt (Nat.lt_succ_self c), List.take_set_of_le (Nat.le_refl c),
    List.getD_eq_getElem?_getD, List.getElem?_set_self h]
  rfl

/-- **rotation lemma**: writing under the cursor and advancing it is "drop the oldest,
append the newest" on the view -/
theorem view_record {l : List (Option Nat)} {c : Nat} (h : c < l.length) (x : Option Nat) :
    view (l.set c x) (advance l.length c) = (view l c ++ [x]).tail := by
  have := view_advance (l := l.set c x) (c := c) (by rw [List.length_set]; exact h)
  rw [List.length_set, view_set h] at this
  rw [this, view_head h]; rfl

theorem advance_lt {len : Nat} (c : Nat) (h : 0 < len) : advance len c < len := by
  fun_cases advance len c with
  | case1 => exact h
  | case2 hlt => exact Nat.lt_of_not_le hlt

theorem advance_eq_mod {len c : Nat} (h : c < len) : advance len c = (c + 1) % len := by
  fun_cases advance len c with
  | case1 hge => rw [show c + 1 = len from Nat.le_antisymm h hge, Nat.mod_self]
  | case2 hlt => rw [Nat.mod_eq_of_lt (Nat.lt_of_not_le hlt)]

theorem advanceN_eq_mod {len : Nat} (k : Nat) {c : Nat} (h : c < len) : advanceN k len c = (c + k) % len := by
  fun_induction advanceN k len c with
  | case1 => exact (Nat.mod_eq_of_lt h).symm
  | case2 k len c ih =>
    rw [ih (advance_lt c (Nat.zero_lt_of_lt h)), advance_eq_mod h, Nat.mod_add_mod, Nat.add_assoc, Nat.add_comm 1 k]

theorem view_mod {l : List (Option Nat)} {c : Nat} (h : c < l.length) {d : Nat} (hd : d ≤ l.length) :
    view l ((c + d) % l.length) = view (view l c) d := by
  induction d with
  | zero => rw [Nat.add_zero, Nat.mod_eq_of_lt h, view_zero]
  | succ d ih =>
    have hm : (c + d) % l.length < l.length := Nat.mod_lt _ (Nat.zero_lt_of_lt h)
    rw [← Nat.add_assoc, ← Nat.mod_add_mod, ← advance_eq_mod hm, view_advance hm, ih (Nat.le_of_succ_le hd)]
    exact (view_succ (by rw [view_length]; exact hd)).symm

/-- going round the ring, the cursor is back at its start after `len` steps and not before -/
theorem mod_succ_eq_start {len start j : Nat} (h : start < len) (hj : j < len) :
    (start + (j + 1)) % len = start ↔ j + 1 = len := by
  constructor
  · intro e
    -- `j + 1` is then a multiple of `len`, and it is at most `len`
    have h0 := Nat.sub_mod_eq_zero_of_mod_eq (e.trans (Nat.mod_eq_of_lt h).symm)
    rw [Nat.add_sub_cancel_left] at h0
    rcases Nat.lt_or_eq_of_le (Nat.succ_le_of_lt hj) with hlt | heq
    · rw [Nat.mod_eq_of_lt hlt] at h0; cases h0
    · exact heq
  · intro e; rw [e, Nat.add_mod_right, Nat.mod_eq_of_lt h]

theorem drop_view {l : List (Option Nat)} {c j : Nat} (h : c < l.length) (hj : j < l.length) :
    (view l c).drop j = l.getD ((c + j) % l.length) none :: (view l c).drop (j + 1) := by
  have hv : j < (view l c).length := by rw [view_length]; exact hj
  have e := view_mod h (Nat.le_of_lt hj)
  rw [view_head (Nat.mod_lt _ (Nat.zero_lt_of_lt h)), view, List.drop_eq_getElem_cons hv] at e
  rw [List.drop_eq_getElem_cons hv, (List.cons.inj e).1]

theorem copyLoop_length (l : List (Option Nat)) (start k c : Nat) : (copyLoop l start k c).length ≤ k := by
  fun_induction copyLoop l start k c with
  | case1 => exact Nat.le_refl 0
  | case2 => exact Nat.succ_le_succ (Nat.zero_le _)
  | case3 _ _ _ _ _ ih => exact Nat.succ_le_succ ih

/-- entered `j` slots after `start`, the copy loop yields the next `k` entries of the view from
`start` and stops where that view ends (the `break` on coming full circle: `mod_succ_eq_start`) -/
theorem copyLoop_eq {l : List (Option Nat)} {start : Nat} (h : start < l.length) (k : Nat) :
    ∀ j, j < l.length → copyLoop l start k ((start + j) % l.length) = ((view l start).drop j).take k := by
  induction k with
  | zero => intro j _; rfl
  | succ k ih =>
    intro j hj
    rw [drop_view h hj, List.take_succ_cons]
    simp only [copyLoop]
    rw [advance_eq_mod (Nat.mod_lt _ (Nat.zero_lt_of_lt h)), Nat.mod_add_mod, Nat.add_assoc]
    by_cases hlast : j + 1 = l.length
    · rw [if_pos ((mod_succ_eq_start h hj).mpr hlast), List.drop_of_length_le (by rw [view_length, hlast]; exact Nat.le_refl _),
        List.take_nil]
    · rw [if_neg (mt (mod_succ_eq_start h hj).mp hlast), ih (j + 1) (Nat.lt_of_le_of_ne hj hlast)]

theorem copyLoop_start {l : List (Option Nat)} {c : Nat} (h : c < l.length) (k : Nat) :
    copyLoop l c k c = (view l c).take k := by
  have := copyLoop_eq h k 0 (Nat.zero_lt_of_lt h)
  rwa [Nat.add_zero, Nat.mod_eq_of_lt h] at this

theorem resize_nil (c n : Nat) : resize [] c n = List.replicate n none := by
  simp [resize]

theorem resizeSpec_nil (n : Nat) : resizeSpec [] n = List.replicate n none := by
  fun_cases resizeSpec [] n with
  | case1 h => rw [Nat.le_zero.mp h]; rfl
  | case2 => rfl

/-- what the two loops compute, on the view alone: rotate past the entries to drop, take `n`, pad -/
theorem resizeSpec_eq (v : List (Option Nat)) (n : Nat) :
    resizeSpec v n = (view v (v.length - n)).take n ++ List.replicate (n - ((view v (v.length - n)).take n).length) none := by
  unfold resizeSpec view
  by_cases hn : n ≤ v.length
  · have h1 : (List.drop (v.length - n) v).length = n := by rw [List.length_drop, Nat.sub_sub_self hn]
    rw [if_pos hn, List.take_left' h1, h1, Nat.sub_self, List.replicate_zero, List.append_nil]
  · have hlt : v.length ≤ n := Nat.le_of_lt (Nat.lt_of_not_le hn)
    rw [if_neg hn, Nat.sub_eq_zero_of_le hlt, List.drop_zero, List.take_zero, List.append_nil,
      List.take_of_length_le hlt]

/-- the cursor is inside the ring (0 for the empty ring) -/
def CurOK (ring : List (Option Nat)) (cursor : Nat) : Prop :=
  cursor < ring.length ∨ (ring = [] ∧ cursor = 0)

/-- the two loops of `SetMaxEvents` keep the newest `n` timestamps in order (shrinking), or
all of them followed by free slots (growing) -/
theorem resize_eq_spec {l : List (Option Nat)} {c : Nat} (hc : CurOK l c) (n : Nat) :
    resize l c n = resizeSpec (view l c) n := by
  rcases hc with hc | ⟨hl, _⟩
  · have hd : l.length - n ≤ l.length := Nat.sub_le _ _
    have hpos : 0 < l.length := Nat.lt_of_le_of_lt (Nat.zero_le c) hc
    rw [resizeSpec_eq, view_length, ← view_mod hc hd, ← copyLoop_start (Nat.mod_lt _ hpos), ← advanceN_eq_mod _ hc]
    simp only [resize, if_pos hpos]
  · subst hl
    rw [resize_nil, view_nil, resizeSpec_nil]

theorem resize_length {l : List (Option Nat)} {c : Nat} (n : Nat) : (resize l c n).length = n := by
  unfold resize
  rw [List.length_append, List.length_replicate]
  apply Nat.add_sub_cancel'
  split
  · exact copyLoop_length ..
  · exact Nat.zero_le n

theorem mem_resize {l : List (Option Nat)} {c n : Nat} (hc : CurOK l c) {t : Nat}
    (h : some t ∈ resize l c n) : some t ∈ l := by
  rw [resize_eq_spec hc] at h
  revert h
  fun_cases resizeSpec (view l c) n with
  | case1 => exact fun h => mem_view.mp (List.mem_of_mem_drop h)
  | case2 =>
    intro h
    rcases List.mem_append.mp h with h | h
    · exact mem_view.mp h
    · exact nomatch (List.mem_replicate.mp h).2

open Abs

/-- a ticket handed off whose `record` is still to come -/
def pend : Phase → Nat
  | .recording _ => 1
  | _ => 0

theorem pend_stale (p : Phase) : pend (stale p) = pend p := by cases p <;> rfl

theorem stale_ne_fresh_sleep (p : Phase) (t : Nat) : stale p ≠ .sleeping t true := by
  cases p <;> simp [stale]

/-- the moves of the scheduling goroutine that change nothing but its phase -/
inductive Loop (s : St) : Ev → Phase → Prop
  | disabled (hp : s.phase = .idle) (hl : s.ring.length = 0) : Loop s .compute (.offering true)
  | panic (hp : s.phase = .idle) : Loop s .compute .stopped
  | free (hp : s.phase = .idle) (hl : 0 < s.ring.length) (hx : s.ring.getD s.cursor none = none) :
      Loop s .compute (.sleeping 0 true)
  | sleep {t : Nat} (hp : s.phase = .idle) (hl : 0 < s.ring.length)
      (hx : s.ring.getD s.cursor none = some t) : Loop s .compute (.sleeping (t + s.W) true)
  | fire {t : Nat} {f : Bool} (hp : s.phase = .sleeping t f) (ht : t ≤ s.now) : Loop s .fire (.offering f)
  | stop (hp : pend s.phase = 0) : Loop s .stop .stopped

/-- What a step does, by kind of effect, as far as the invariants below need it. For them
`step` is opened once, in `Effect.of_step`, and each is preserved kind by kind (the per-event
facts of Props/C17.lean open the one branch of `step` they are about). Events that differ
only in what they require of the waiter (`handoff`/successful `allow`; `call`/`cancel`/refused
`allow`) or that change nothing (a `setMax`/`setWindow` to the value in force) are one kind. -/
inductive Effect (s : St) : Ev → St → Prop
  | tick (d : Nat) : Effect s (.tick d) { s with now := s.now + d }
  | loop {e : Ev} {ph : Phase} (h : Loop s e ph) : Effect s e { s with phase := ph }
  | ticket {e : Ev} {w : Nat} {f : Bool} (he : e = .handoff w ∨ e = .allow w) (hp : s.phase = .offering f) :
      Effect s e { s with phase := .recording true, adm := s.now :: s.adm, got := w :: s.got
                          ws := setW s.ws w .admitted }
  | client {e : Ev} {w : Nat} {v : WSt} (he : e = .call w ∨ e = .cancel w ∨ e = .allow w)
      (hw : s.ws w ≠ .admitted) (hv : v ≠ .admitted) : Effect s e { s with ws := setW s.ws w v }
  | record {c : Bool} (hp : s.phase = .recording c) (hl : 0 < s.ring.length) :
      Effect s .record { s with phase := .idle, ring := s.ring.set s.cursor (some s.now)
                                cursor := advance s.ring.length s.cursor
                                recs := s.now :: s.recs, nrec := s.nrec + 1 }
  | record0 {c : Bool} (hp : s.phase = .recording c) (hl : s.ring.length = 0) :
      Effect s .record { s with phase := .idle, recs := s.now :: s.recs, nrec := s.nrec + 1 }
  | setMax {n : Nat} (hg : ¬ (n = 0 ∧ s.W ≠ 0)) (hn : n ≠ s.ring.length) :
      Effect s (.setMax n) { s with ring := resize s.ring s.cursor n, cursor := 0
                                    phase := stale s.phase, adm := [], recs := [] }
  | setWindow {w : Nat} (hg : ¬ (s.ring.length = 0 ∧ w ≠ 0)) (hw : w ≠ s.W) :
      Effect s (.setWindow w) { s with W := w, phase := stale s.phase, adm := [], recs := [] }
  | same {e : Ev} (he : e = .setMax s.ring.length ∨ e = .setWindow s.W) : Effect s e s

theorem Effect.of_step {s s' : St} {e : Ev} (h : step s e = some s') : Effect s e s' := by
  revert h
  -- one goal per leaf of `step`, in the order of its definition; `cases h` closes the refusals
  fun_cases step s e
  all_goals intro h; cases h
  next d => exact .tick d
  next hp hl _ => exact .loop (.disabled hp hl)
  next hp _ _ => exact .loop (.panic hp)
  next hp hl hx => exact .loop (.free hp (Nat.pos_of_ne_zero hl) hx)
  next hp hl t hx => exact .loop (.sleep hp (Nat.pos_of_ne_zero hl) hx)
  next t f hp ht => exact .loop (.fire hp ht)
  next w f hp _ => exact .ticket (.inl rfl) hp
  next w _ f hp => exact .ticket (.inr rfl) hp
  next w hw _ => exact .client (.inr (.inr rfl)) (by rw [hw]; decide) (by decide)
  next c hp hl => exact .record hp hl
  next c hp hl => exact .record0 hp (Nat.eq_zero_of_not_pos hl)
  next w hw => exact .client (.inl rfl) (by rw [hw]; decide) (by decide)
  next w hw => exact .client (.inr (.inl rfl)) (by rw [hw]; decide) (by decide)
  next => exact .same (.inl rfl)
  next n hg hn => exact .setMax hg hn
  next => exact .same (.inr rfl)
  next w hg hw => exact .setWindow hg hw
  next hp => exact .loop (.stop (by rw [hp]; rfl))
  next t f hp => exact .loop (.stop (by rw [hp]; rfl))
  next f hp => exact .loop (.stop (by rw [hp]; rfl))

theorem Loop.pend {s : St} {e : Ev} {ph : Phase} (h : Loop s e ph) : pend ph = pend s.phase := by
  cases h with
  | stop hp => exact hp.symm
  | fire hp | disabled hp | panic hp | free hp | sleep hp => rw [hp]; rfl

theorem curOK_zero (l : List (Option Nat)) : CurOK l 0 := by
  cases l with
  | nil => exact .inr ⟨rfl, rfl⟩
  | cons _ _ => exact .inl (Nat.succ_pos _)

theorem CurOK.lt {l : List (Option Nat)} {c : Nat} (hc : CurOK l c) (h : 0 < l.length) : c < l.length := by
  rcases hc with hc | ⟨hl, _⟩
  · exact hc
  · rw [hl] at h; exact absurd h (Nat.lt_irrefl 0)

/-- the abstraction: forget the cursor (rotate the ring) and the waiters -/
def abs (s : St) : ASt :=
  { view := view s.ring s.cursor, W := s.W, now := s.now, phase := s.phase, adm := s.adm, recs := s.recs }

theorem Loop.abs_step {s : St} {e : Ev} {ph : Phase} (h : Loop s e ph) (hc : CurOK s.ring s.cursor) :
    ∃ ae, astep (abs s) ae = some (abs { s with phase := ph }) := by
  cases h with
  | disabled hp hl =>
    have hv : view s.ring s.cursor = [] := view_eq_nil.mpr (List.eq_nil_of_length_eq_zero hl)
    exact ⟨.compute, by simp only [astep, abs, hp, hv]⟩
  | panic hp => exact ⟨.halt .idle, by simp [astep, abs, hp]⟩
  | free hp hl hx | sleep hp hl hx => exact ⟨.compute, by simp only [astep, abs, hp, view_head (hc.lt hl), hx]⟩
  | fire hp ht => exact ⟨.fire, by simp only [astep, abs, hp, if_pos ht]⟩
  | stop hp =>
    have hne : s.phase ≠ .recording true := fun h => by rw [h] at hp; cases hp
    exact ⟨.halt s.phase, if_pos ⟨rfl, hne⟩⟩

theorem step_refines {s s' : St} {e : Ev} (hc : CurOK s.ring s.cursor) (h : step s e = some s') :
    (abs s' = abs s ∨ ∃ ae, astep (abs s) ae = some (abs s')) ∧ CurOK s'.ring s'.cursor := by
  cases Effect.of_step h with
  | tick d => exact ⟨.inr ⟨.tick d, rfl⟩, hc⟩
  | loop hl => exact ⟨.inr (hl.abs_step hc), hc⟩
  | ticket _ hp => exact ⟨.inr ⟨.handoff, by simp only [astep, abs, hp]⟩, hc⟩
  | client | same => exact ⟨.inl rfl, hc⟩
  | record hp hl =>
    refine ⟨.inr ⟨.record, ?_⟩, .inl ?_⟩
    · simp only [astep, abs, hp, record_view, view_record (hc.lt hl)]
    · rw [List.length_set]; exact advance_lt _ hl
  | record0 hp hl =>
    have hnil : s.ring = [] := List.eq_nil_of_length_eq_zero hl
    exact ⟨.inr ⟨.record, by simp only [astep, abs, hp, hnil, view_nil, if_true]⟩, hc⟩
  | @setMax n hg hn =>
    refine ⟨.inr ⟨.setMax (resize s.ring s.cursor n), ?_⟩, curOK_zero _⟩
    simp only [astep, abs, view_zero]
    exact if_neg fun ⟨h1, h2⟩ => hg ⟨by rw [← resize_length (l := s.ring) (c := s.cursor) n, h1]; rfl, h2⟩
  | @setWindow w hg hw =>
    refine ⟨.inr ⟨.setWindow w, ?_⟩, hc⟩
    exact if_neg fun ⟨h1, h2⟩ => hg ⟨by rw [view_eq_nil.mp h1]; rfl, h2⟩

structure WInv (s : St) : Prop where
  gotI  : ∀ w, w ∈ s.got ↔ s.ws w = .admitted         -- `got` = the waiters that returned admitted
  nrecI : s.nrec + pend s.phase = s.got.length        -- one record per hand-off, the last maybe to come

theorem setW_same (f : Nat → WSt) (w : Nat) (v : WSt) : setW f w v w = v := if_pos rfl
theorem setW_other (f : Nat → WSt) {w w' : Nat} (v : WSt) (h : w' ≠ w) : setW f w v w' = f w' := if_neg h

theorem winv_step {s s' : St} {e : Ev} (hi : WInv s) (h : step s e = some s') : WInv s' := by
  have hn := hi.nrecI
  cases Effect.of_step h with
  | tick d => exact ⟨hi.gotI, hn⟩
  | loop hl => exact ⟨hi.gotI, by rw [hl.pend]; exact hn⟩
  | @ticket _ w f _ hp =>
    refine ⟨Upd.forall_upd (P := fun q x => q ∈ w :: s.got ↔ x = WSt.admitted) ?_ ?_,
      by rw [hp] at hn; exact congrArg Nat.succ hn⟩
    · exact ⟨fun _ => rfl, fun _ => List.mem_cons_self⟩
    · exact fun q hq => (List.mem_cons.trans (or_iff_right hq)).trans (hi.gotI q)
  | @client _ w v _ h0 hv =>
    exact ⟨Upd.forall_upd (P := fun q x => q ∈ s.got ↔ x = WSt.admitted)
      ⟨fun h => absurd ((hi.gotI w).mp h) h0, fun h => absurd h hv⟩ fun q _ => hi.gotI q, hn⟩
  | record hp | record0 hp => exact ⟨hi.gotI, by rw [hp] at hn; exact hn⟩
  | setMax | setWindow => exact ⟨hi.gotI, by rw [pend_stale]; exact hn⟩
  | same => exact hi

structure PInv (s : St) : Prop where
  rpast  : ∀ t, some t ∈ s.ring → t ≤ s.now                      -- no slot lies in the future
  slpW   : ∀ t, s.phase = .sleeping t true → t ≤ s.now + s.W     -- a fresh timer is at most a window away
  sorted : s.adm.Pairwise (fun a b => b ≤ a)                     -- newest first
  apast  : ∀ x ∈ s.adm, x ≤ s.now                                -- (`AInv.past` of `abs s`)

theorem getD_some_mem {l : List (Option Nat)} {c t : Nat} (h : l.getD c none = some t) : some t ∈ l := by
  rw [List.getD_eq_getElem?_getD, Option.getD_eq_iff] at h
  rcases h with h | ⟨_, h⟩
  · exact List.mem_of_getElem? h
  · cases h

theorem Loop.due {s : St} {e : Ev} {ph : Phase} (h : Loop s e ph) (hr : ∀ t, some t ∈ s.ring → t ≤ s.now) :
    ∀ t, ph = .sleeping t true → t ≤ s.now + s.W := by
  intro t hp
  cases h with
  | disabled | panic | fire | stop => cases hp
  | free => cases hp; exact Nat.zero_le _
  | sleep _ _ hx => cases hp; exact Nat.add_le_add_right (hr _ (getD_some_mem hx)) _

/-- `hpast` refills `apast` for the new state: it is `AInv.past` of `abs s'`, which `Inv.step` has
carried over by then -/
theorem pinv_step {s s' : St} {e : Ev} (hc : CurOK s.ring s.cursor) (hi : PInv s)
    (h : step s e = some s') (hpast : ∀ x ∈ s'.adm, x ≤ s'.now) : PInv s' := by
  cases Effect.of_step h with
  | tick d =>
    refine ⟨?_, ?_, hi.sorted, hpast⟩
    · intro t ht; exact Nat.le_trans (hi.rpast t ht) (Nat.le_add_right _ _)
    · intro t hp; exact Nat.le_trans (hi.slpW t hp) (Nat.add_le_add_right (Nat.le_add_right _ _) _)
  | loop hl => exact ⟨hi.rpast, hl.due hi.rpast, hi.sorted, hpast⟩
  | ticket =>
    exact ⟨hi.rpast, nofun, List.pairwise_cons.mpr ⟨hi.apast, hi.sorted⟩, hpast⟩
  | client => exact ⟨hi.rpast, hi.slpW, hi.sorted, hpast⟩
  | record =>
    refine ⟨?_, nofun, hi.sorted, hpast⟩
    intro t ht
    rcases List.mem_or_eq_of_mem_set ht with h1 | h1
    · exact hi.rpast t h1
    · cases h1; exact Nat.le_refl _
  | record0 => exact ⟨hi.rpast, nofun, hi.sorted, hpast⟩
  | setMax =>
    exact ⟨fun t ht => hi.rpast t (mem_resize hc ht), fun t hp => absurd hp (stale_ne_fresh_sleep _ _), .nil, hpast⟩
  | setWindow => exact ⟨hi.rpast, fun t hp => absurd hp (stale_ne_fresh_sleep _ _), .nil, hpast⟩
  | same => exact hi

structure Inv (s : St) : Prop where
  cur : CurOK s.ring s.cursor   -- the cursor is inside the ring
  a   : AInv (abs s)            -- the ring and the sliding window, through the rotated view
  w   : WInv s                  -- who got a ticket
  p   : PInv s                  -- the clock

theorem Inv.of_init {s : St} (h : Init s) : Inv s := by
  obtain ⟨N, W, T, hv, rfl⟩ := h
  refine ⟨curOK_zero _, ?_, ⟨by intro w; simp [init], rfl⟩, ⟨?_, nofun, .nil, nofun⟩⟩
  · refine inv_of_empty (fun h0 => hv ⟨?_, h0.2⟩) nofun
    exact (List.replicate_eq_nil_iff _).mp ((view_zero _).symm.trans h0.1)
  · intro t ht; simp [init] at ht

theorem Inv.step {s s' : St} {e : Ev} (hi : Inv s) (h : step s e = some s') : Inv s' := by
  obtain ⟨hr, hc⟩ := step_refines hi.cur h
  have ha : AInv (abs s') := by
    rcases hr with hr | ⟨ae, hr⟩
    · rw [hr]; exact hi.a
    · exact inv_step hi.a hr
  exact ⟨hc, ha, winv_step hi.w h, pinv_step hi.cur hi.p h ha.past⟩

theorem Inv.run {s s' : St} (es : List Ev) (hi : Inv s) (h : run s es = some s') : Inv s' := by
  fun_induction RateLimit.run s es with   -- a bare `run` is this theorem here
  | case1 => cases h; exact hi
  | case2 s e es s1 hs1 ih => exact ih (Inv.step hi hs1) h
  | case3 => cases h

theorem Inv.of_reachable {s : St} (h : Reachable s) : Inv s := by
  obtain ⟨s0, es, h0, hr⟩ := h
  exact Inv.run es (Inv.of_init h0) hr

theorem bound_of_inv {s : St} (hi : Inv s) : Spaced s.ring.length s.W s.adm := by
  have hb : Spaced (view s.ring s.cursor).length s.W s.adm := hi.a.bound
  rwa [view_length] at hb

theorem checkAdm_iff {N W : Nat} {seg : List Nat} {x : Nat} :
    checkAdm N W seg x = true ↔ ∀ y, (x :: seg)[N]? = some y → y + W ≤ x := by
  fun_cases checkAdm N W seg x with
  | case1 y hy =>
    rw [decide_eq_true_eq]
    exact ⟨fun h y' hy' => (Option.some.inj (hy.symm.trans hy')) ▸ h, fun h => h y hy⟩
  | case2 hn => exact ⟨fun _ y hy => (nomatch hn.symm.trans hy), fun _ => rfl⟩

theorem boundOK_run {s s' : St} (es : List Ev) (hi : Inv s) (h : run s es = some s') :
    boundOK s.ring.length s.W s.adm (observe s es) = true := by
  fun_induction run s es with
  | case1 => rfl
  | case3 => cases h
  | case2 s e es s1 hs1 ih =>
    have hi1 := Inv.step hi hs1
    have ih1 := ih hi1 h
    -- what the observer sees of this step is a `match` on the event: it computes in each case below, to
    -- `observe s1 es` with something in front or (`allow`, `setMax`, `setWindow`) to an `if` on what has changed
    rw [observe, hs1]
    cases Effect.of_step hs1 with
    | tick | record0 => exact ih1
    | loop hl => cases hl <;> exact ih1
    | record => rwa [List.length_set] at ih1
    | ticket he =>
      -- `boundOK` of an admission followed by the rest
      have hb := Bool.and_eq_true_iff.mpr ⟨checkAdm_iff.mpr (spaced_cons.mp (bound_of_inv hi1)).1, ih1⟩
      rcases he with rfl | rfl
      · exact hb
      · exact (congrArg (boundOK _ _ _) (if_neg (Nat.succ_ne_self _))).trans hb
    | client he =>
      rcases he with rfl | rfl | rfl
      · exact ih1
      · exact ih1
      · exact (congrArg (boundOK _ _ _) (if_pos rfl)).trans ih1
    | setMax _ hn =>
      exact (congrArg (boundOK _ _ _) (if_neg (by rw [resize_length]; exact hn))).trans ih1
    | setWindow _ hw => exact (congrArg (boundOK _ _ _) (if_neg hw)).trans ih1
    | same he => rcases he with rfl | rfl <;> exact (congrArg (boundOK _ _ _) (if_pos rfl)).trans ih1

theorem length_filter_le_of_drop {p : Nat → Bool} {l : List Nat} {N : Nat}
    (h : ∀ z ∈ l.drop N, ¬ p z = true) : (l.filter p).length ≤ N := by
  rw [← List.take_append_drop N l, List.filter_append, List.filter_eq_nil_iff.mpr h, List.append_nil]
  exact Nat.le_trans (List.length_filter_le _ _) (List.length_take_le _ _)

/-- counting form of the bound for a sorted list of instants (newest first) -/
theorem count_window {N W : Nat} {l : List Nat} (hs : l.Pairwise (fun a b => b ≤ a)) (hb : Spaced N W l)
    (a : Nat) : (l.filter (fun x => decide (a ≤ x ∧ x < a + W))).length ≤ N := by
  induction l with
  | nil => exact Nat.zero_le _
  | cons x tl ih =>
    have ⟨hle, hs'⟩ := List.pairwise_cons.mp hs
    by_cases hx : x < a + W
    · -- the newest is below the window's end: whatever lies `N` or more places behind is older than `a`
      apply length_filter_le_of_drop
      intro z hz
      obtain ⟨j, hj⟩ := List.getElem?_of_mem hz
      rw [List.getElem?_drop, Nat.add_comm] at hj
      have hlt : j < (x :: tl).length := Nat.lt_of_le_of_lt (Nat.le_add_right j N) (List.getElem?_eq_some_iff.mp hj).1
      have h1 := hb j _ z (List.getElem?_eq_getElem hlt) hj
      have h2 : (x :: tl)[j] ≤ x := by
        cases j with
        | zero => exact Nat.le_refl x
        | succ j' => exact hle _ (List.getElem_mem _)
      rw [decide_eq_true_eq]
      -- otherwise `a + W ≤ z + W ≤ (x :: tl)[j] ≤ x < a + W`
      exact fun hz => Nat.lt_irrefl _ (Nat.lt_of_le_of_lt
        (Nat.le_trans (Nat.add_le_add_right hz.1 W) (Nat.le_trans h1 h2)) hx)
    · rw [List.filter_cons_of_neg (by rw [decide_eq_true_eq]; exact fun h => hx h.2)]
      exact ih hs' (spaced_cons.mp hb).2

/-- while the limit is not changed: the ring has its initial length and the first
`N - nrec` slots of the view are still zero -/
def ZInv (N : Nat) (s : St) : Prop :=
  s.ring.length = N ∧ ∀ j, j + s.nrec < N → (view s.ring s.cursor)[j]? = some none

theorem zinv_init (N W T : Nat) : ZInv N (init N W T) := by
  refine ⟨List.length_replicate, fun j hj => ?_⟩
  show (view (List.replicate N none) 0)[j]? = some none
  rw [view_zero, List.getElem?_replicate, if_pos (Nat.lt_of_le_of_lt (Nat.le_add_right j _) hj)]

theorem zinv_step {N : Nat} {s s' : St} {e : Ev} (hc : CurOK s.ring s.cursor) (hz : ZInv N s)
    (h : step s e = some s') (h2 : ∀ n, e ≠ .setMax n) : ZInv N s' := by
  cases Effect.of_step h with
  | record _ hl =>
    refine ⟨by rw [List.length_set]; exact hz.1, ?_⟩
    intro j hj
    have hj' : j + 1 + s.nrec < N := by rw [Nat.add_right_comm]; exact hj
    rw [view_record (hc.lt hl), List.getElem?_tail, List.getElem?_append_left
      (by rw [view_length, hz.1]; exact Nat.lt_of_le_of_lt (Nat.le_add_right _ _) hj')]
    exact hz.2 (j + 1) hj'
  | record0 _ hl => exact ⟨hz.1, fun j hj => absurd hj (by rw [← hz.1, hl]; exact Nat.not_lt_zero _)⟩
  | setMax => exact absurd rfl (h2 _)
  | tick | loop | ticket | client | setWindow | same => exact hz

theorem zinv_run {N : Nat} {s s' : St} (es : List Ev) (hc : CurOK s.ring s.cursor) (hz : ZInv N s)
    (h : run s es = some s') (hns : ∀ e ∈ es, ∀ n, e ≠ Ev.setMax n) : ZInv N s' := by
  fun_induction run s es with
  | case1 => cases h; exact hz
  | case2 s e es s1 hs1 ih =>
    exact ih (step_refines hc hs1).2 (zinv_step hc hz hs1 (hns e List.mem_cons_self)) h
      (fun e' he' => hns e' (List.mem_cons_of_mem _ he'))
  | case3 => cases h

end CM.RateLimit
