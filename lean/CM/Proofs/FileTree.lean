import CM.Model.FileTree
/-! `FileStorage` on a POSIX tree (`CM.FileTree`) refines the `Storage` contract (`CM.KV`)
wherever the contract is definite. -/
namespace CM.FileTree
open CM.KV
variable {κ : Type} [DecidableEq κ] {ν : Type}

omit [DecidableEq κ] in
theorem mem_parents {k d : Key κ} : d ∈ parents k ↔ d <+: k ∧ d ≠ [] ∧ d ≠ k := by
  have h := mem_map_take k d 0 (k.length - 1) (Nat.sub_le_sub_left (Nat.zero_le 1) _)
  simp only [Nat.zero_add] at h
  unfold parents
  rw [h]
  constructor
  · rintro ⟨hp, h0, hl⟩
    have hk : 0 < k.length := Nat.lt_of_lt_of_le h0 hp.length_le
    exact ⟨hp, List.length_pos_iff.mp h0,
      (prefix_ne_iff_length_lt hp).mpr (Nat.lt_of_le_of_lt hl (Nat.sub_lt hk Nat.one_pos))⟩
  · rintro ⟨hp, h0, hne⟩
    exact ⟨hp, List.length_pos_iff.mpr h0, Nat.le_sub_one_of_lt ((prefix_ne_iff_length_lt hp).mp hne)⟩

omit [DecidableEq κ] in
theorem parents_trans {a b c : Key κ} (h1 : a ∈ parents b) (h2 : b <+: c) : a ∈ parents c := by
  obtain ⟨hp, h0, hne⟩ := mem_parents.mp h1
  refine mem_parents.mpr ⟨hp.trans h2, h0, (prefix_ne_iff_length_lt (hp.trans h2)).mpr ?_⟩
  exact Nat.lt_of_lt_of_le ((prefix_ne_iff_length_lt hp).mp hne) h2.length_le

theorem thru_iff (t : FS κ ν) (k : Key κ) :
    thruFile t k = true ↔ ∃ e ∈ t.files, e.1 <+: k ∧ e.1 ≠ k := by
  unfold thruFile
  simp only [List.any_eq_true, Bool.and_eq_true, decide_eq_true_eq, List.isPrefixOf_iff_prefix]

theorem thru_false_iff {t : FS κ ν} {k : Key κ} :
    thruFile t k = false ↔ ∀ e ∈ t.files, e.1 <+: k → e.1 = k := by
  rw [← Bool.not_eq_true, thru_iff]
  exact ⟨fun h e he hp => Decidable.by_contra fun hne => h ⟨e, he, hp, hne⟩,
    fun h ⟨e, he, hp, hne⟩ => hne (h e he hp)⟩

theorem mem_addDirs {ds new : List (Key κ)} {x : Key κ} : x ∈ addDirs ds new ↔ x ∈ ds ∨ x ∈ new := by
  unfold addDirs
  induction new generalizing ds with
  | nil => simp
  | cons d r ih =>
    have hstep : x ∈ (if ds.contains d then ds else ds ++ [d]) ↔ x ∈ ds ∨ x = d := by
      split
      · rename_i hc
        exact ⟨Or.inl, fun h => h.elim id (fun e => e ▸ List.contains_iff_mem.mp hc)⟩
      · rw [List.mem_append, List.mem_singleton]
    rw [List.foldl_cons, ih, hstep, List.mem_cons, or_assoc]

theorem isDir_iff {t : FS κ ν} {k : Key κ} : isDir t k = true ↔ k = [] ∨ k ∈ t.dirs := by
  unfold isDir; simp

theorem isFile_iff {t : FS κ ν} {k : Key κ} : isFile t k = true ↔ ∃ v, load t.files k = some v := by
  unfold isFile; cases load t.files k <;> simp

theorem mem_nodes {t : FS κ ν} {x : Key κ} : x ∈ nodes t ↔ isFile t x = true ∨ x ∈ t.dirs := by
  unfold nodes
  rw [List.mem_append, isFile_iff, List.mem_map]
  refine or_congr ⟨?_, ?_⟩ Iff.rfl
  · rintro ⟨⟨k, v⟩, he, rfl⟩
    exact load_of_mem he
  · rintro ⟨v, hv⟩
    exact ⟨(x, v), load_mem hv, rfl⟩

/-- Four of the six conditions give the other two: a file that is a proper prefix of a node is one of
the node's parents, which are directories, and no file is a directory. -/
theorem WF.of_dirs {t : FS κ ν} (hpar : ∀ e ∈ t.files, ∀ d ∈ parents e.1, d ∈ t.dirs)
    (hclosed : ∀ d ∈ t.dirs, ∀ d' ∈ parents d, d' ∈ t.dirs) (hne : [] ∉ t.dirs)
    (hfile : ∀ e ∈ t.files, e.1 ∉ t.dirs ∧ e.1 ≠ []) : WF t := by
  have hthru : ∀ x, (∀ d ∈ parents x, d ∈ t.dirs) → thruFile t x = false := fun x hx =>
    thru_false_iff.mpr fun e he hp => Decidable.by_contra fun hex =>
      (hfile e he).1 (hx e.1 (mem_parents.mpr ⟨hp, (hfile e he).2, hex⟩))
  exact ⟨hpar, hclosed, hne, hfile, fun e he => hthru e.1 (hpar e he), fun d hd => hthru d (hclosed d hd)⟩

theorem wf_empty : WF (FS.empty : FS κ ν) :=
  .of_dirs nofun nofun nofun nofun

/-- the `MkdirAll` of `Store` -/
theorem wf_mkdirAll {t : FS κ ν} (W : WF t) (k : Key κ) (hth : thruFile t k = false) :
    WF { t with dirs := addDirs t.dirs (parents k) } := by
  refine .of_dirs ?_ ?_ ?_ ?_
  · intro e he d hd
    exact mem_addDirs.mpr (Or.inl (W.parents_dirs e he d hd))
  · intro d hd d' hd'
    rcases mem_addDirs.mp hd with h | h
    · exact mem_addDirs.mpr (Or.inl (W.dirs_closed d h d' hd'))
    · exact mem_addDirs.mpr (Or.inr (parents_trans hd' (mem_parents.mp h).1))
  · intro h
    rcases mem_addDirs.mp h with h | h
    · exact W.dirs_nonempty h
    · exact (mem_parents.mp h).2.1 rfl
  · intro e he
    refine ⟨fun h => ?_, (W.file_not_dir e he).2⟩
    rcases mem_addDirs.mp h with h | h
    · exact (W.file_not_dir e he).1 h
    · obtain ⟨h1, _, h3⟩ := mem_parents.mp h
      exact h3 (thru_false_iff.mp hth e he h1)

/-- the final rename of `Store` -/
theorem wf_put {t : FS κ ν} (W : WF t) (k : Key κ) (hk : k ≠ []) (v : ν) (hkd : k ∉ t.dirs)
    (hpar : ∀ d ∈ parents k, d ∈ t.dirs) : WF { t with files := KV.store t.files k v } := by
  refine .of_dirs ?_ W.dirs_closed W.dirs_nonempty ?_
  · intro e he
    rcases mem_store.mp he with rfl | ⟨h, _⟩
    · exact hpar
    · exact W.parents_dirs e h
  · intro e he
    rcases mem_store.mp he with rfl | ⟨h, _⟩
    · exact ⟨hkd, hk⟩
    · exact W.file_not_dir e h

/-- the `RemoveAll` of `Delete` -/
theorem wf_removeAll {t : FS κ ν} (W : WF t) (k : Key κ) :
    WF { files := KV.delete t.files k, dirs := t.dirs.filter (fun d => !k.isPrefixOf d) } := by
  have hdir : ∀ {d}, d ∈ t.dirs.filter (fun d => !k.isPrefixOf d) ↔ d ∈ t.dirs ∧ ¬ k <+: d := by
    intro d
    rw [List.mem_filter, Bool.not_eq_true', isPrefixOf_eq_false]
  refine .of_dirs ?_ ?_ ?_ ?_
  · intro e he d hd
    obtain ⟨h1, h2⟩ := mem_delete.mp he
    exact hdir.mpr ⟨W.parents_dirs e h1 d hd, fun hp => h2 (hp.trans (mem_parents.mp hd).1)⟩
  · intro d hd d' hd'
    obtain ⟨h1, h2⟩ := hdir.mp hd
    exact hdir.mpr ⟨W.dirs_closed d h1 d' hd', fun hp => h2 (hp.trans (mem_parents.mp hd').1)⟩
  · intro h
    exact W.dirs_nonempty (hdir.mp h).1
  · intro e he
    obtain ⟨h1, h2⟩ := W.file_not_dir e (mem_delete.mp he).1
    exact ⟨fun h => h1 (hdir.mp h).1, h2⟩

theorem node_on_disk {t : FS κ ν} (W : WF t) {k : Key κ} (h : KV.exists t.files k = true) :
    isFile t k = true ∨ isDir t k = true := by
  obtain ⟨e, he, hp⟩ := exists_iff_mem.mp h
  by_cases hek : k = e.1
  · exact Or.inl (isFile_iff.mpr (load_of_mem (v := e.2) (hek ▸ he)))
  · by_cases hk : k = []
    · exact Or.inr (isDir_iff.mpr (Or.inl hk))
    · exact Or.inr (isDir_iff.mpr (Or.inr (W.parents_dirs e he k (mem_parents.mpr ⟨hp, hk, hek⟩))))

theorem classify_spec {t : FS κ ν} (W : WF t) (k : Key κ) :
    match classify t k with
    | .file => ∃ v, load t.files k = some v ∧ thruFile t k = false
    | .thru => thruFile t k = true
    | .dir => load t.files k = none ∧ thruFile t k = false ∧ KV.exists t.files k = true ∧ isDir t k = true
    | .linger => load t.files k = none ∧ thruFile t k = false ∧ KV.exists t.files k = false ∧ isDir t k = true
    | .missing => load t.files k = none ∧ thruFile t k = false ∧ KV.exists t.files k = false ∧ isDir t k = false := by
  have hnone : ¬ isFile t k = true → load t.files k = none := Option.not_isSome_iff_eq_none.mp
  fun_cases classify t k
  next hf =>
    obtain ⟨v, hv⟩ := isFile_iff.mp hf
    exact ⟨v, hv, W.no_thru (k, v) (load_mem hv)⟩
  next hth => exact hth
  next hf hth hex =>
    exact ⟨hnone hf, Bool.eq_false_iff.mpr hth, hex, (node_on_disk W hex).resolve_left hf⟩
  next hf hth hex hD =>
    exact ⟨hnone hf, Bool.eq_false_iff.mpr hth, Bool.eq_false_iff.mpr hex, hD⟩
  next hf hth hex hD =>
    exact ⟨hnone hf, Bool.eq_false_iff.mpr hth, Bool.eq_false_iff.mpr hex, Bool.eq_false_iff.mpr hD⟩

theorem dir_on_disk {t : FS κ ν} (W : WF t) {p : Key κ} (hp : p = [] ∨ classify t p = .dir) :
    thruFile t p = false ∧ isFile t p = false ∧ isDir t p = true ∧ (p = [] ∨ KV.exists t.files p = true) := by
  rcases hp with rfl | hc
  · refine ⟨thru_false_iff.mpr (fun e _ h => List.prefix_nil.mp h), ?_, isDir_iff.mpr (Or.inl rfl), Or.inl rfl⟩
    cases hl : isFile t []
    · rfl
    · obtain ⟨v, hv⟩ := isFile_iff.mp hl
      exact absurd rfl (W.file_not_dir _ (load_mem hv)).2
  · have hs := classify_spec W p
    rw [hc] at hs
    obtain ⟨hl, hth, hex, hD⟩ := hs
    exact ⟨hth, by rw [isFile, hl]; rfl, hD, Or.inr hex⟩

theorem mem_nodes_of_exists {t : FS κ ν} (W : WF t) {x : Key κ} (hx : x ≠ [])
    (he : KV.exists t.files x = true) : x ∈ nodes t :=
  mem_nodes.mpr ((node_on_disk W he).imp id fun h => (isDir_iff.mp h).resolve_left hx)

theorem linger_of_not_exists {t : FS κ ν} (W : WF t) {x : Key κ} (hn : x ∈ nodes t)
    (he : ¬ KV.exists t.files x = true) : classify t x = .linger := by
  have hf : isFile t x = false := Bool.eq_false_iff.mpr fun h =>
    let ⟨_, hv⟩ := isFile_iff.mp h
    he (exists_of_load hv)
  have hd : x ∈ t.dirs := (mem_nodes.mp hn).resolve_left (Bool.eq_false_iff.mp hf)
  simp [classify, hf, W.dir_no_thru x hd, he, isDir_iff.mpr (Or.inr hd)]

theorem fsList_dir {t : FS κ ν} {p : Key κ} (hth : thruFile t p = false) (hf : isFile t p = false)
    (hD : isDir t p = true) (r : Bool) :
    ∃ l, fsList t p r = .ok l ∧ ∀ x, x ∈ l ↔
      x ∈ nodes t ∧ (p <+: x ∧ x ≠ p) ∧ (r = true ∨ x.length = p.length + 1) := by
  refine ⟨_, by simp only [fsList, hth, hf, hD]; rfl, fun x => ?_⟩
  simp only [List.mem_filter, Bool.and_eq_true, Bool.or_eq_true, decide_eq_true_eq, beq_iff_eq,
    List.isPrefixOf_iff_prefix]
  exact and_congr_right fun _ => and_congr_left fun _ => and_congr_right fun hp =>
    (ne_comm.trans (prefix_ne_iff_length_lt hp)).symm

end CM.FileTree
