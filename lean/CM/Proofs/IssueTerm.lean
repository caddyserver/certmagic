import CM.Proofs.Issue
/-!
Termination measure for the issuance LTS (C01 "nobody hangs"): every step of a request
`p < n` strictly decreases `mu n s` — a sum over the first `n` requests of a rank of their
program counter plus a multiple of their remaining retry budget, plus one while the lock is
held. Hence every run of `n` requests is finite, with an explicit bound.
-/
namespace CM.Issue

def total (f : Nat → Nat) : Nat → Nat
  | 0 => 0
  | n + 1 => total f n + f n

theorem total_congr {f g : Nat → Nat} {n : Nat} (h : ∀ q, q < n → g q = f q) : total g n = total f n := by
  induction n with
  | zero => rfl
  | succ n ih => rw [total, total, ih (fun q hq => h q (Nat.lt_succ_of_lt hq)), h n (Nat.lt_succ_self n)]

theorem total_exchange {f g : Nat → Nat} {n p : Nat} (hp : p < n) (h : ∀ q, q ≠ p → g q = f q) :
    total g n + f p = total f n + g p := by
  induction n with
  | zero => cases hp
  | succ n ih =>
    rw [total, total]
    by_cases hpn : p = n
    · subst hpn
      rw [total_congr (fun q hq => h q (Nat.ne_of_lt hq)), Nat.add_right_comm]
    · rw [h n (Ne.symm hpn), Nat.add_right_comm, ih (Nat.lt_of_le_of_ne (Nat.le_of_lt_succ hp) hpn),
        Nat.add_right_comm]

def rank : Kind → PC → Nat
  | .manage, .start => 13
  | _, .start => 12
  | _, .wantLock => 11
  | _, .recheck => 9
  | _, .issueBegin => 8
  | _, .issuing => 7
  | _, .save => 6
  | _, .failed => 5
  | _, .release _ => 4
  | _, .done _ => 0
  | _, .dead => 0

/-- weight of request `p`: each retry costs 10, more than a retry gains in rank -/
def wt (s : St) (p : Nat) : Nat := rank (s.kind p) (s.pc p) + 10 * s.budget p

def lockTerm (s : St) : Nat := if s.lock.isSome then 1 else 0

def mu (n : Nat) (s : St) : Nat := lockTerm s + total (wt s) n

-- `rank` matches on the pair, `.manage, .start` first, so `rank k c` does not reduce while `k` is a variable
@[simp] theorem rank_wantLock (k : Kind) : rank k .wantLock = 11 := by cases k <;> rfl
@[simp] theorem rank_recheck (k : Kind) : rank k .recheck = 9 := by cases k <;> rfl
@[simp] theorem rank_issueBegin (k : Kind) : rank k .issueBegin = 8 := by cases k <;> rfl
@[simp] theorem rank_issuing (k : Kind) : rank k .issuing = 7 := by cases k <;> rfl
@[simp] theorem rank_save (k : Kind) : rank k .save = 6 := by cases k <;> rfl
@[simp] theorem rank_failed (k : Kind) : rank k .failed = 5 := by cases k <;> rfl
@[simp] theorem rank_release (k : Kind) (ok : Bool) : rank k (.release ok) = 4 := by cases k <;> rfl
@[simp] theorem rank_done (k : Kind) (ok : Bool) : rank k (.done ok) = 0 := by cases k <;> rfl
@[simp] theorem rank_dead (k : Kind) : rank k .dead = 0 := by cases k <;> rfl
@[simp] theorem rank_start_manage : rank .manage .start = 13 := rfl
@[simp] theorem rank_start_obtain : rank .obtain .start = 12 := rfl
@[simp] theorem rank_start_renew : rank .renew .start = 12 := rfl
theorem rank_start_ge (k : Kind) : 12 ≤ rank k .start := by cases k <;> simp
theorem rank_le (k : Kind) (c : PC) : rank k c ≤ 13 := by
  cases c with
  | start => cases k <;> simp
  | _ => simp

theorem Moves.rank_lt {due : Ver → Bool} {s : St} {c c' : PC} (h : Moves due s c c') (k : Kind) :
    rank k c' < rank k c := by
  cases h with
  | skip | queue => have := rank_start_ge k; simp; omega
  | @die c h1 h2 =>
    cases c with
    | start => have := rank_start_ge k; simp; omega
    | done ok => exact absurd rfl (h1 ok)
    | dead => exact absurd rfl h2
    | _ => simp
  | _ => simp

theorem wt_lt_of_rank {s s' : St} {p : Nat} (hl : lockTerm s' = lockTerm s) (hb : s'.budget p = s.budget p)
    (hr : rank (s'.kind p) (s'.pc p) < rank (s.kind p) (s.pc p)) :
    lockTerm s' + wt s' p + 1 ≤ lockTerm s + wt s p := by
  rw [hl, wt, hb]
  exact Nat.add_le_add_left (Nat.add_lt_add_right hr _) _

/-- What a step costs the request that takes it. This is where the constants of `rank` and `wt`
come from: every move loses at least one; `acq` raises `lockTerm` by one, so it loses two in rank
(11 → 9); `retry` climbs back from 5 to 9, so a unit of budget must weigh more than 4 (it weighs
10); resolving `manage` stays at `start`, so `manage` starts one higher (13). -/
theorem Effect.wt_lt {due : Ver → Bool} {s s' : St} {p : Nat} (h : Effect due s (some p) s') :
    lockTerm s' + wt s' p + 1 ≤ lockTerm s + wt s p := by
  cases h with
  | resolve k hc hk hk' =>
    exact wt_lt_of_rank rfl rfl (by cases k <;> simp [hc, hk] at hk' ⊢)
  | move hc hm => exact wt_lt_of_rank rfl rfl (by simpa [hc] using hm.rank_lt (s.kind p))
  | call hc | save hc => exact wt_lt_of_rank rfl rfl (by simp [hc])
  | answer ok hc => exact wt_lt_of_rank rfl rfl (by cases ok <;> simp [hc])
  | acq hc hl => simp [wt, lockTerm, hc, hl]; omega
  | retry hc hb | rel ok hc => simp [wt, lockTerm, hc]; omega

theorem Effect.mu_lt {due : Ver → Bool} {s s' : St} {m : Option Nat} {n : Nat} (h : Effect due s m s')
    (hn : ∀ p, m = some p → p < n) : mu n s' < mu n s := by
  cases m with
  | none =>
    cases h with
    | expire hl hd =>
      have : lockTerm s = 1 := by simp [lockTerm, hl]
      show 0 + total (wt s) n < lockTerm s + total (wt s) n
      omega
  | some p =>
    have hw := total_exchange (f := wt s) (g := wt s') (hn p rfl) (fun q hq => by
      obtain ⟨h1, h2, h3, _⟩ := h.frame q (fun h => hq (Option.some.inj h).symm)
      rw [wt, wt, h1, h2, h3])
    have := h.wt_lt
    unfold mu; omega

theorem run_length_le {due : Ver → Bool} {n : Nat} {es : List Ev} {s s' : St}
    (hn : ∀ e ∈ es, ∀ p, e.proc = some p → p < n) (hr : run due s es = some s') :
    es.length + mu n s' ≤ mu n s := by
  fun_induction run due s es with
  | case1 s => cases hr; simp
  | case2 s e es s1 hs ih =>
    have h1 := (Effect.of_step hs).mu_lt (hn e (by simp))
    have h2 := ih (fun e' he' => hn e' (List.mem_cons_of_mem _ he')) hr
    simp only [List.length_cons]
    omega
  | case3 => cases hr

end CM.Issue
