import CM.Proofs.FileLockStep
/-! Inductive invariants of the lock-file LTS: `Inv` holds of every
reachable state and is preserved by each elementary update of which the steps are composed; `MInv` holds
under the three scheduler assumptions and sees of a state only the named inode, the owners and the removers. -/
namespace CM.FileLock

theorem writeIno_some {f : Option (Nat × Content)} {i : Nat} {cont : Content} {j : Nat} {c' : Content}
    (h : writeIno f i cont = some (j, c')) :
    ∃ old, f = some (j, old) ∧ ((j = i ∧ c' = cont) ∨ (j ≠ i ∧ c' = old)) := by
  revert h
  fun_cases writeIno f i cont
  all_goals intro h; cases h
  next => exact ⟨_, rfl, Or.inl ⟨rfl, rfl⟩⟩
  next hk => exact ⟨_, rfl, Or.inr ⟨hk, rfl⟩⟩

theorem writeIno_none {f : Option (Nat × Content)} {i : Nat} {cont : Content}
    (h : writeIno f i cont = none) : f = none := by
  revert h
  fun_cases writeIno f i cont
  all_goals intro h; cases h
  rfl

theorem writeIno_fst (f : Option (Nat × Content)) (i : Nat) (cont : Content) :
    (writeIno f i cont).map Prod.fst = f.map Prod.fst := by
  fun_cases writeIno f i cont <;> rfl

theorem ownIno_eq_some {x : PC} {i : Nat} (h : ownIno x = some i) : x = .created i ∨ ∃ c, x = .holding i c := by
  revert h
  fun_cases ownIno x
  all_goals intro h; cases h
  next => exact Or.inl rfl
  next => exact Or.inr ⟨_, rfl⟩

theorem own_of_created {x : PC} {i : Nat} (h : x = .created i) : ownIno x = some i := by subst h; rfl
theorem own_of_holding {x : PC} {i c : Nat} (h : x = .holding i c) : ownIno x = some i := by subst h; rfl

structure Inv (s : State) : Prop where
  own_lt   : ∀ p i, ownIno (s.pc p) = some i → i < s.next
  file_lt  : ∀ i c, s.file = some (i, c) → i < s.next
  own_inj  : ∀ p q i, ownIno (s.pc p) = some i → ownIno (s.pc q) = some i → p = q
  hb_lt    : ∀ p i, hbIno (s.hb p) = some i → i < s.next
  beat_le  : ∀ p, s.beat p ≤ s.now
  /-- the `updated` stamp in a holder's file is never older than its last beat -/
  fresh    : ∀ p i c c' u, s.pc p = .holding i c → s.file = some (i, .stamp c' u) → s.beat p ≤ u
  /-- between create and the first write the file is empty and no heartbeat has it open -/
  cr_empty : ∀ p i cont, s.pc p = .created i → s.file = some (i, cont) → cont = .empty
  cr_nohb  : ∀ p q i, s.pc p = .created i → hbIno (s.hb q) ≠ some i
  /-- a holder whose file still has the name can only have that very inode open -/
  hb_own   : ∀ p i j c cont, s.pc p = .holding j c → hbIno (s.hb p) = some i → s.file = some (j, cont) → i = j

namespace Inv
variable {s : State} (I : Inv s)
include I

theorem tick {d : Nat} : Inv { s with now := s.now + d } :=
  { I with beat_le := fun p => Nat.le_trans (I.beat_le p) (Nat.le_add_right _ _) }

theorem pc {p : Nat} {x : PC} (hx : ownIno x = none) : Inv { s with pc := upd s.pc p x } := by
  -- a pc that owns something is an old one
  have old : ∀ {q y i}, upd s.pc p x q = y → ownIno y = some i → s.pc q = y := by
    intro q y i h hy
    rcases Upd.upd_eq h with ⟨_, rfl⟩ | ⟨_, h'⟩
    · rw [hx] at hy; cases hy
    · exact h'
  refine { I with own_lt := ?_, own_inj := ?_, fresh := ?_, cr_empty := ?_, cr_nohb := ?_, hb_own := ?_ }
  · intro q i h; exact I.own_lt q i (upd_some_of_none hx h).2
  · intro q r i hq hr; exact I.own_inj q r i (upd_some_of_none hx hq).2 (upd_some_of_none hx hr).2
  · intro q i c c' u hq; exact I.fresh q i c c' u (old hq rfl)
  · intro q i cont hq; exact I.cr_empty q i cont (old hq rfl)
  · intro q r i hq; exact I.cr_nohb q r i (old hq rfl)
  · intro q i j c cont hq; exact I.hb_own q i j c cont (old hq rfl)

theorem unlink : Inv { s with file := none } := by
  refine { I with file_lt := ?_, fresh := ?_, cr_empty := ?_, hb_own := ?_ }
  · intro _ _ h; cases h
  · intro _ _ _ _ _ _ h; cases h
  · intro _ _ _ _ h; cases h
  · intro _ _ _ _ _ _ _ h; cases h

theorem hb {p : Nat} {y : HB} (hy : ∀ i, hbIno y = some i → hbIno (s.hb p) = some i) :
    Inv { s with hb := upd s.hb p y } := by
  have old : ∀ {q i}, hbIno (upd s.hb p y q) = some i → hbIno (s.hb q) = some i := by
    intro q i h
    rcases Upd.apply_upd h with ⟨rfl, h'⟩ | ⟨_, h'⟩
    · exact hy i h'
    · exact h'
  exact { I with
    hb_lt := fun q i h => I.hb_lt q i (old h)
    cr_nohb := fun q r i hq h => I.cr_nohb q r i hq (old h)
    hb_own := fun q i j c cont hq h => I.hb_own q i j c cont hq (old h) }

theorem create {p : Nat} :
    Inv { s with file := some (s.next, .empty), next := s.next + 1, pc := upd s.pc p (.created s.next) } := by
  -- the new inode is in nobody's hands
  have nown : ∀ q, ownIno (s.pc q) ≠ some s.next := fun q h => Nat.lt_irrefl _ (I.own_lt q _ h)
  have nhb : ∀ q, hbIno (s.hb q) ≠ some s.next := fun q h => Nat.lt_irrefl _ (I.hb_lt q _ h)
  exact {
    own_lt := fun q i h => by
      rcases Upd.apply_upd h with ⟨_, h⟩ | ⟨_, h⟩
      · cases h; exact Nat.lt_succ_self _
      · exact Nat.lt_succ_of_lt (I.own_lt q i h)
    file_lt := fun i c h => by cases h; exact Nat.lt_succ_self _
    own_inj := fun q r i hq hr => by
      rcases Upd.apply_upd hq with ⟨rfl, h1⟩ | ⟨_, h1⟩ <;> rcases Upd.apply_upd hr with ⟨rfl, h2⟩ | ⟨_, h2⟩
      · rfl
      · cases h1; exact absurd h2 (nown r)
      · cases h2; exact absurd h1 (nown q)
      · exact I.own_inj q r i h1 h2
    hb_lt := fun q i h => Nat.lt_succ_of_lt (I.hb_lt q i h)
    beat_le := I.beat_le
    fresh := fun _ _ _ _ _ _ h => by cases h
    cr_empty := fun _ _ _ _ h => by cases h; rfl
    cr_nohb := fun q r i hq => by
      rcases Upd.upd_eq hq with ⟨_, h⟩ | ⟨_, h⟩
      · cases h; exact nhb r
      · exact I.cr_nohb q r i h
    hb_own := fun q i j c cont hq _ hf => by
      cases hf
      rcases Upd.upd_eq hq with ⟨_, h⟩ | ⟨_, h⟩
      · cases h
      · exact absurd (own_of_holding h) (nown q) }

theorem hold {p i : Nat} (cr : Nat) (hp : s.pc p = .created i) (hh : hbIno (s.hb p) = none) :
    Inv { s with pc := upd s.pc p (.holding i cr) } := by
  have own : ∀ q, ownIno (upd s.pc p (.holding i cr) q) = ownIno (s.pc q) :=
    apply_upd_of_eq (by rw [hp]; rfl)
  refine { I with own_lt := ?_, own_inj := ?_, fresh := ?_, cr_empty := ?_, cr_nohb := ?_, hb_own := ?_ }
  · intro q j h; exact I.own_lt q j (own q ▸ h)
  · intro q r j hq hr; exact I.own_inj q r j (own q ▸ hq) (own r ▸ hr)
  · intro q j cc c' u hq hf
    rcases Upd.upd_eq hq with ⟨rfl, h⟩ | ⟨_, h⟩
    · cases h; cases I.cr_empty q _ _ hp hf
    · exact I.fresh q j cc c' u h hf
  · intro q j cont hq hf
    rcases Upd.upd_eq hq with ⟨_, h⟩ | ⟨_, h⟩
    · cases h
    · exact I.cr_empty q j cont h hf
  · intro q r j hq
    rcases Upd.upd_eq hq with ⟨_, h⟩ | ⟨_, h⟩
    · cases h
    · exact I.cr_nohb q r j h
  · intro q j k cc cont hq hb hf
    rcases Upd.upd_eq hq with ⟨rfl, _⟩ | ⟨_, h⟩
    · rw [hh] at hb; cases hb
    · exact I.hb_own q j k cc cont h hb hf

theorem truncate (i : Nat) : Inv { s with file := writeIno s.file i .empty } := by
  refine { I with file_lt := ?_, fresh := ?_, cr_empty := ?_, hb_own := ?_ }
  · intro j cont h
    obtain ⟨old, ho, _⟩ := writeIno_some h
    exact I.file_lt j old ho
  · intro q j cc c' u hq h
    obtain ⟨old, ho, ⟨_, hc⟩ | ⟨_, rfl⟩⟩ := writeIno_some h
    · cases hc
    · exact I.fresh q j cc c' u hq ho
  · intro q j cont hq h
    obtain ⟨old, ho, ⟨_, hc⟩ | ⟨_, rfl⟩⟩ := writeIno_some h
    · exact hc
    · exact I.cr_empty q j _ hq ho
  · intro q j k cc cont hq hb h
    obtain ⟨old, ho, _⟩ := writeIno_some h
    exact I.hb_own q j k cc old hq hb ho

/-- `h1`: the content of `i` stops being empty; `h2`: `p`'s beat would overtake the stamp of another file it held -/
theorem stamp (p i c0 : Nat) (h1 : ∀ q, s.pc q ≠ .created i)
    (h2 : ∀ j cc cont, s.pc p = .holding j cc → s.file = some (j, cont) → j = i) :
    Inv { s with file := writeIno s.file i (.stamp c0 s.now), beat := upd s.beat p s.now } := by
  have beat : ∀ q, upd s.beat p s.now q ≤ s.now := Upd.forall_upd (P := fun _ b => b ≤ s.now) (Nat.le_refl _) fun q _ => I.beat_le q
  refine { I with file_lt := ?_, beat_le := beat, fresh := ?_, cr_empty := ?_, hb_own := ?_ }
  · intro j cont h
    obtain ⟨old, ho, _⟩ := writeIno_some h
    exact I.file_lt j old ho
  · intro q j cc c' u hq h
    obtain ⟨old, ho, ⟨_, hc⟩ | ⟨hne, rfl⟩⟩ := writeIno_some h
    · cases hc; exact beat q
    · by_cases hqp : q = p
      · subst hqp; exact absurd (h2 j cc _ hq ho) hne
      · exact Nat.le_trans (Nat.le_of_eq (upd_other hqp)) (I.fresh q j cc c' u hq ho)
  · intro q j cont hq h
    obtain ⟨old, ho, ⟨rfl, _⟩ | ⟨_, rfl⟩⟩ := writeIno_some h
    · exact absurd hq (h1 q)
    · exact I.cr_empty q j _ hq ho
  · intro q j k cc cont hq hb h
    obtain ⟨old, ho, _⟩ := writeIno_some h
    exact I.hb_own q j k cc old hq hb ho

theorem hbOpen {p i c0 u : Nat} (hf : s.file = some (i, .stamp c0 u)) :
    Inv { s with hb := upd s.hb p (.opened i c0) } := by
  have hbs : ∀ {q j}, hbIno (upd s.hb p (.opened i c0) q) = some j → j = i ∨ hbIno (s.hb q) = some j := by
    intro q j h
    rcases Upd.apply_upd h with ⟨_, h⟩ | ⟨_, h⟩
    · cases h; exact Or.inl rfl
    · exact Or.inr h
  refine { I with hb_lt := ?_, cr_nohb := ?_, hb_own := ?_ }
  · intro q j h
    rcases hbs h with rfl | h
    · exact I.file_lt _ _ hf
    · exact I.hb_lt q j h
  · intro q r j hq h
    rcases hbs h with rfl | h
    · cases I.cr_empty q _ _ hq hf
    · exact I.cr_nohb q r j hq h
  · intro q j k cc cont hq h hfile
    rcases hbs h with rfl | h
    · rw [hf] at hfile; cases hfile; rfl
    · exact I.hb_own q j k cc cont hq h hfile

end Inv

theorem inv_step (c : Params) {s s' : State} {e : Ev} (I : Inv s) (h : step c s e = some s') : Inv s' := by
  have E := Effect.of_step h
  clear h
  -- by the recursor rather than `cases`: `e` and `s'` are variables, there are no equations to solve
  induction E with
  | tick => exact I.tick
  | move _ hm => exact I.pc hm.own.2
  | create => exact I.create
  | @writeMeta p i hp =>
    have I1 := I.hb (p := p) (y := .sleep (s.now + c.H) s.now) nofun
    have I2 := I1.hold s.now hp (congrArg hbIno upd_same)
    refine I2.stamp p i s.now ?_ ?_
    · intro q hq
      rcases Upd.upd_eq hq with ⟨_, h⟩ | ⟨hqp, h⟩
      · cases h
      · exact hqp (I.own_inj q p i (own_of_created h) (own_of_created hp))
    · intro j cc cont hq _
      rcases Upd.upd_eq hq with ⟨_, h⟩ | ⟨hne, _⟩
      · cases h; rfl
      · exact absurd rfl hne
  | remove | unlock => exact (I.pc rfl).unlink
  | die => exact (I.pc rfl).hb nofun
  | hbOpen _ _ hf => exact I.hbOpen hf
  | hbStop => exact I.hb nofun
  | @hbTrunc p i _ hp => exact (I.truncate i).hb (fun j h => by rw [hp]; exact h)
  | @hbWrite p i c0 hp =>
    have hpi : hbIno (s.hb p) = some i := congrArg hbIno hp
    exact (I.stamp p i c0 (fun q hq => I.cr_nohb q p i hq hpi)
      (fun j cc cont hq hf => (I.hb_own p i j cc cont hq hpi hf).symm)).hb nofun

theorem inv_init {t0 : Nat} {f0 : Option Content} : Inv (initState t0 f0) := by
  refine ⟨?_, ?_, ?_, ?_, fun _ => Nat.zero_le _, ?_, ?_, ?_, ?_⟩
  · intro _ _ h; cases h
  · intro i c h; cases f0 <;> cases h; exact Nat.zero_lt_one
  · intro _ _ _ h; cases h
  · intro _ _ h; cases h
  · intro _ _ _ _ _ h; cases h
  · intro _ _ _ h; cases h
  · intro _ _ _ h; cases h
  · intro _ _ _ _ _ h; cases h

theorem inv_reach {c : Params} {A : State → Ev → State → Prop} {t0 : Nat} {f0 : Option Content} {s : State}
    (h : Reach c A (initState t0 f0) s) : Inv s := by
  induction h with
  | init => exact inv_init
  | step _ hs _ ih => exact inv_step c ih hs

theorem stale_iff {c : Params} {now cr u : Nat} :
    stale c now cr u = true ↔ (if u = 0 then cr else u) + c.factor * c.H < now := by
  unfold stale
  rw [decide_eq_true_iff]
  exact Nat.lt_sub_iff_add_lt'

theorem not_stale_of_fresh {c : Params} {J now beat cr u : Nat} (hJ : c.H + J < c.factor * c.H)
    (hb : beat ≤ u) (ht : now ≤ beat + c.H + J) : stale c now cr u = false := by
  -- the stamp the test refers to is no older than the beat
  have hr : beat ≤ if u = 0 then cr else u := by
    split
    · rename_i h0; rw [h0] at hb; exact Nat.le_trans hb (Nat.zero_le _)
    · exact hb
  refine Bool.eq_false_iff.mpr fun hs => absurd (stale_iff.mp hs) (Nat.not_lt_of_le ?_)
  calc now ≤ beat + c.H + J := ht
    _ = beat + (c.H + J) := Nat.add_assoc ..
    _ ≤ _ + (c.H + J) := Nat.add_le_add_right hr _
    _ ≤ _ + c.factor * c.H := Nat.add_le_add_left (Nat.le_of_lt hJ) _

def Assumed (c : Params) (J : Nat) : State → Ev → State → Prop :=
  fun s e s' => HLive s e s' ∧ HTimely c J s e s' ∧ HEmpty s e s'

structure MInv (s : State) : Prop where
  owned_iff : ∀ i, (∃ p, ownIno (s.pc p) = some i) ↔ s.file.map Prod.fst = some i
  no_remover : ∀ p k, s.pc p ≠ .removing k

theorem MInv.congr {s s' : State} (M : MInv s) (hf : s'.file.map Prod.fst = s.file.map Prod.fst)
    (ho : ∀ q, ownIno (s'.pc q) = ownIno (s.pc q)) (hr : ∀ q k, s'.pc q ≠ .removing k) : MInv s' :=
  ⟨fun i => by rw [hf, ← M.owned_iff i]; simp only [ho], hr⟩

theorem MInv.unique {s : State} (M : MInv s) (I : Inv s) {p q i j : Nat} (hp : ownIno (s.pc p) = some i)
    (hq : ownIno (s.pc q) = some j) : p = q := by
  have hij := (M.owned_iff i).mp ⟨p, hp⟩
  rw [(M.owned_iff j).mp ⟨q, hq⟩] at hij
  cases hij
  exact I.own_inj p q i hp hq

theorem minv_step {c : Params} {J : Nat} (hJ : c.H + J < c.factor * c.H) {s s' : State} {e : Ev}
    (I : Inv s) (M : MInv s) (h : step c s e = some s') (A : Assumed c J s e s') : MInv s' := by
  obtain ⟨AL, AT, AE⟩ := A
  have E := Effect.of_step h
  clear h
  -- a pc update to anything but `removing` makes no remover
  have nr : ∀ {p x'}, (∀ k, x' ≠ .removing k) → ∀ q k, upd s.pc p x' q ≠ .removing k := fun hx =>
    Upd.forall_upd (P := fun _ y => ∀ k, y ≠ PC.removing k) hx fun q _ => M.no_remover q
  induction E with
  | tick | hbOpen | hbStop => exact M.congr rfl (fun _ => rfl) M.no_remover
  | hbTrunc | hbWrite => exact M.congr (writeIno_fst ..) (fun _ => rfl) M.no_remover
  | writeMeta hp => exact M.congr (writeIno_fst ..) (apply_upd_of_eq (by rw [hp]; rfl)) (nr nofun)
  | remove hp => exact absurd hp (M.no_remover _ _)
  | @die p _ =>
    have hn : ownIno (s.pc p) = none := Option.eq_none_iff_forall_ne_some.2 fun i h => AL p rfl ⟨i, h⟩
    exact M.congr rfl (apply_upd_of_eq hn.symm) (nr nofun)
  | @create p _ _ hf =>
    -- no file, hence no owner before
    have hn : ∀ q i, ownIno (s.pc q) ≠ some i := fun q i h => nomatch hf ▸ (M.owned_iff i).1 ⟨q, h⟩
    refine ⟨fun i => ⟨fun ⟨q, h⟩ => ?_, fun h => ⟨p, (congrArg ownIno upd_same).trans h⟩⟩, nr nofun⟩
    rcases Upd.apply_upd h with ⟨_, h⟩ | ⟨_, h⟩
    · exact h
    · exact absurd h (hn q i)
  | @unlock p _ _ hp =>
    -- the holder was the only owner
    refine ⟨fun j => ⟨fun ⟨q, h⟩ => ?_, nofun⟩, nr nofun⟩
    obtain ⟨hqp, h⟩ := upd_some_of_none rfl h
    exact absurd (M.unique I h (own_of_holding hp)) hqp
  | @move p _ _ _ hp hm =>
    refine M.congr rfl (apply_upd_of_eq (by rw [hp, hm.own.1, hm.own.2])) (nr ?_)
    cases hm with
    | unread hf hc =>
      obtain ⟨q, hq⟩ := (M.owned_iff _).2 (congrArg (Option.map Prod.fst) hf)
      exact fun k h => AE p rfl ⟨_, hc.imp (· ▸ hf) (· ▸ hf), q, hq⟩ k (upd_same.trans h)
    | @expired _ i cr u hf hs =>
      -- the owner of the file holds it and has beaten in time: its stamp is not stale
      obtain ⟨q, hq⟩ := (M.owned_iff i).2 (congrArg (Option.map Prod.fst) hf)
      rcases ownIno_eq_some hq with hc | ⟨cc, hh⟩
      · cases I.cr_empty q i _ hc hf
      · have hqp : q ≠ p := fun e => by rw [e, hp] at hh; cases hh
        have ht := AT q i cc ((upd_other hqp).trans hh)
        rw [not_stale_of_fresh hJ (I.fresh q i cc cr u hh hf) ht] at hs
        cases hs
    | _ => nofun

theorem minv_reach {c : Params} {J : Nat} (hJ : c.H + J < c.factor * c.H) {t0 : Nat} {s : State}
    (h : Reach c (Assumed c J) (initState t0 none) s) : Inv s ∧ MInv s := by
  induction h with
  | init => exact ⟨inv_init, fun _ => ⟨nofun, nofun⟩, nofun⟩  -- no file, no owner, no remover
  | step _ hs ha ih => exact ⟨inv_step c ih.1 hs, minv_step hJ ih.1 ih.2 hs ha⟩

/-! a concrete run that satisfies the three assumptions (non-vacuity of `C08_mutex`) -/

theorem assumed_of {c : Params} {J : Nat} {s s' : State} {e : Ev}
    (hd : ∀ p, e ≠ .die p)
    (hf : (∀ p, e ≠ .observe p) ∨ ∀ i, s.file ≠ some (i, .empty) ∧ s.file ≠ some (i, .garbage))
    (ht : s'.now ≤ c.H + J) : Assumed c J s e s' := by
  refine ⟨fun p h => absurd h (hd p), ?_, ?_⟩
  · -- so early that nobody can be late
    intro p _ _ _
    exact Nat.le_trans ht (Nat.add_le_add_right (Nat.le_add_left _ _) J)
  · intro p he ⟨i, h, _⟩
    rcases hf with hf | hf
    · exact absurd he (hf p)
    · rcases h with h | h
      · exact absurd h (hf i).1
      · exact absurd h (hf i).2

def ex0 : State := initState 100 none
def ex1 : State := { ex0 with pc := upd ex0.pc 0 (.try_ 0) }
def ex2 : State := { ex1 with file := some (1, .empty), next := 2, pc := upd ex1.pc 0 (.created 1) }
def ex3 : State := { ex2 with file := some (1, .stamp 100 100), pc := upd ex2.pc 0 (.holding 1 100)
                              hb := upd ex2.hb 0 (.sleep (100 + codeParams.H) 100), beat := upd ex2.beat 0 100 }
def ex4 : State := { ex3 with pc := upd ex3.pc 1 (.try_ 0) }
def ex5 : State := { ex4 with pc := upd ex4.pc 1 (.exists_ 0) }
def ex6 : State := { ex5 with pc := upd ex5.pc 1 (.poll 0 (100 + codeParams.P)) }

theorem ex_reach : Reach codeParams (Assumed codeParams 0) (initState 100 none) ex6 := by
  -- the whole run happens at instant 100; from `ex6` back to the start
  have early : (100 : Nat) ≤ codeParams.H + 0 := by decide
  refine .step (s := ex5) (e := .observe 1) ?_ rfl
    (assumed_of nofun (Or.inr fun i => ⟨nofun, nofun⟩) early)
  refine .step (s := ex4) (e := .tryCreate 1) ?_ rfl (assumed_of nofun (Or.inl nofun) early)
  refine .step (s := ex3) (e := .lock 1) ?_ rfl (assumed_of nofun (Or.inl nofun) early)
  refine .step (s := ex2) (e := .writeMeta 0) ?_ rfl (assumed_of nofun (Or.inl nofun) early)
  refine .step (s := ex1) (e := .tryCreate 0) ?_ rfl (assumed_of nofun (Or.inl nofun) early)
  exact .step (s := ex0) (e := .lock 0) .init rfl (assumed_of nofun (Or.inl nofun) early)

end CM.FileLock
