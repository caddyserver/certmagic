import CM.Proofs.AccountStep
/-! Inductive invariants of the C20 account protocol, each proved by cases on `Effect`. The predicates
are stated on the fields of the state they read, so a step that leaves those fields alone keeps
them by computation and no frame lemma is needed for it. -/
namespace CM.Account

/-- what holds of the shared state while process `p` is at a given program point
(`reg = none ∨ key = none`: `loadAccount` would find nothing, `stored_none_iff`) -/
def LocOn (lock reg key : Option Nat) (nextKey : Nat) (dneAns : Nat → Bool) (p : Nat) : PC → Prop
  | .register k | .savePre k | .saveReg k =>
    lock = some p ∧ (reg = none ∨ key = none) ∧ k < nextKey ∧ key ≠ some k
  | .saveKey k _ | .rollback k _ => lock = some p ∧ reg = some k ∧ k < nextKey ∧ key ≠ some k
  | .reload | .release _ | .dneRel _ => lock = some p
  | .dneLock a => dneAns a = true
  | .dneCheck a => lock = some p ∧ dneAns a = true
  | .dneDelReg a => lock = some p ∧ dneAns a = true ∧ (reg = some a ∨ reg = none ∨ key = none)
  | .dneDelKey a => lock = some p ∧ dneAns a = true ∧ reg = none
  | _ => True

abbrev Loc (s : St) : Nat → PC → Prop := LocOn s.lock s.reg s.key s.nextKey s.dneAns

/-- every process's annotation holds, and the key in storage is one that was made: a new key (≥ `nextKey`) is not it -/
structure Inv1 (s : St) : Prop where
  loc : ∀ p, Loc s p (s.pc p)
  keyFresh : ∀ b, s.key = some b → b < s.nextKey

theorem Inv1.locAt {s : St} {p : Nat} {c : PC} (h : Inv1 s) (hc : s.pc p = c) : Loc s p c := hc ▸ h.loc p

/-- the program points inside the registration lock's critical section -/
def PC.inCS : PC → Bool
  | .reload | .register _ | .savePre _ | .saveReg _ | .saveKey _ _ | .rollback _ _ | .release _
  | .dneCheck _ | .dneDelReg _ | .dneDelKey _ | .dneRel _ => true
  | _ => false

variable {l r k l' r' k' : Option Nat} {n n' : Nat} {d d' ca ca' : Nat → Bool} {p q : Nat} {c c' : PC}

/-- a process at a program point that needs the lock holds it -/
theorem loc_lock (h : LocOn l r k n d p c) (hc : c.inCS = true) : l = some p := by
  cases c with
  | reload | release | dneRel => exact h
  | idle | loadReg | loadKey | wantLock | ready | failed | dneLock => cases hc
  | _ => exact h.1

theorem Inv1.inCS_eq {s : St} (h1 : Inv1 s) (hlk : s.lock = some p) (hq : (s.pc q).inCS = true) : q = p := by
  have := loc_lock (h1.loc q) hq; rw [hlk] at this; cases this; rfl

/-- while `p` holds the lock every other process is outside the critical section -/
theorem Inv1.outside {s : St} (h1 : Inv1 s) (hlk : s.lock = some p) (hq : q ≠ p) : (s.pc q).inCS = false :=
  Bool.eq_false_iff.mpr fun h => hq (h1.inCS_eq hlk h)

/-- a process that does not hold the lock relies only on the answers the CA has given: it keeps what it knows
whatever happens to the rest of the shared state -/
theorem loc_nonholder (h : LocOn l r k n d q c) (hq : l ≠ some q) : LocOn l' r' k' n' d q c := by
  cases c with
  | dneLock a => exact h
  | idle | loadReg | loadKey | wantLock | ready | failed => trivial
  | reload | release | dneRel => exact absurd h hq
  | _ => exact absurd h.1 hq

/-- … so while `p` holds the lock every other process keeps its annotation (the form `Upd.forall_upd` asks for) -/
theorem Inv1.others {s : St} (h1 : Inv1 s) (hp : s.lock = some p) (q : Nat) (hqp : q ≠ p) :
    LocOn l' r' k' n' s.dneAns q (s.pc q) :=
  loc_nonholder (h1.loc q) (by rw [hp]; exact fun e => hqp (Option.some.inj e).symm)

theorem loc_answers (h : LocOn l r k n d q c) (hd : ∀ a, d a = true → d' a = true) : LocOn l r k n d' q c := by
  cases c with
  | dneLock => exact hd _ h
  | dneCheck => exact ⟨h.1, hd _ h.2⟩
  | dneDelReg | dneDelKey => exact ⟨h.1, hd _ h.2.1, h.2.2⟩
  | _ => exact h

theorem loc_reads {s : St} (hr : Reads s c c') (h : Loc s p c) : Loc s p c' := by
  cases hr with
  | reloaded | savePre => exact h
  | refused | dneNotMine => exact h.1
  | dneMine hs => exact ⟨h.1, h.2, .inl (stored_some_iff.mp hs).1⟩
  | dneNothing hs => exact ⟨h.1, h.2, .inr (stored_none_iff.mp hs)⟩
  | _ => trivial

theorem loc_returns (hr : Returns c c') : LocOn l r k n d p c' := by
  cases hr <;> trivial

/-- also after a failed unlock the process still holds the lock -/
theorem loc_fails (hf : Fails c c') (h : LocOn l r k n d p c) : LocOn l r k n d p c' := by
  cases hf with
  | loadReg | loadKey | acq | dneAcq => trivial
  | reload | saveKey => exact h
  | unlock hr => exact loc_returns hr
  | _ => exact h.1

theorem inv1_step {s : St} {e : Ev} {s' : St} (hi : Inv1 s) (h : Effect s e s') : Inv1 s' := by
  cases h with
  | reads hc hr => exact ⟨Upd.forall_upd (loc_reads (s := s) hr (hi.locAt hc)) fun q _ => hi.loc q, hi.keyFresh⟩
  | fails hc hf => exact ⟨Upd.forall_upd (loc_fails hf (hi.locAt hc)) fun q _ => hi.loc q, hi.keyFresh⟩
  | keyDeleteFails hc | answerLost hc | regRestored hc =>
    have hl := hi.locAt hc
    exact ⟨Upd.forall_upd hl.1 (hi.others hl.1), hi.keyFresh⟩
  | locks hc hl hk =>
    refine ⟨Upd.forall_upd ?_ fun q _ => loc_nonholder (hi.loc q) (by rw [hl]; nofun), hi.keyFresh⟩
    cases hk with
    | construct => exact rfl
    | recreate => exact ⟨rfl, hi.locAt hc⟩
  | unlocks hc hr =>
    -- a return starts inside the critical section
    have hlk := loc_lock (hi.locAt hc) (by cases hr <;> rfl)
    exact ⟨Upd.forall_upd (loc_returns hr) (hi.others hlk), hi.keyFresh⟩
  | @newKey p k hc hs hk =>
    -- `k` is at least `nextKey`, above every key made so far, so it is not the stored one
    have hlk : s.lock = some p := hi.locAt hc
    refine ⟨Upd.forall_upd ⟨hlk, stored_none_iff.mp hs, Nat.lt_succ_self k, fun hb => ?_⟩
      (hi.others hlk), fun b hb => Nat.lt_succ_of_lt (Nat.lt_of_lt_of_le (hi.keyFresh b hb) hk)⟩
    exact Nat.lt_irrefl k (Nat.lt_of_lt_of_le (hi.keyFresh k hb) hk)
  | registered hc =>
    have hl := hi.locAt hc
    exact ⟨Upd.forall_upd hl fun q _ => hi.loc q, hi.keyFresh⟩
  | regStored hc =>
    have hl := hi.locAt hc
    exact ⟨Upd.forall_upd ⟨hl.1, rfl, hl.2.2⟩ (hi.others hl.1), hi.keyFresh⟩
  | keyStored hc =>
    have hl := hi.locAt hc
    exact ⟨Upd.forall_upd hl.1 (hi.others hl.1), fun b hb => by cases hb; exact hl.2.2.1⟩
  | disowned _ hc _ =>
    exact ⟨Upd.forall_upd updB_same fun q _ => loc_answers (hi.loc q) fun _ => updB_mono, hi.keyFresh⟩
  | forgotten => exact ⟨hi.loc, hi.keyFresh⟩
  | regDeleted _ hc =>
    have hl := hi.locAt hc
    exact ⟨Upd.forall_upd ⟨hl.1, hl.2.1, rfl⟩ (hi.others hl.1), hi.keyFresh⟩
  | keyDeleted hc =>
    have hl := hi.locAt hc
    exact ⟨Upd.forall_upd hl.1 (hi.others hl.1), nofun⟩

theorem inv1_reach {s : St} (h : Reach s) : Inv1 s :=
  reach_induct ⟨fun _ => trivial, nofun⟩ (fun _ => inv1_step) h

/-- a recreate is between its two deletions -/
def DelBusy (pc : Nat → PC) : Prop := ∃ p a, pc p = .dneDelKey a

/-- the key file is that of the registration file's account, unless a recreate is between its two deletions;
void once a key deletion has failed -/
def NoMixOn (reg key : Option Nat) (delKeyFaults : Nat) (pc : Nat → PC) : Prop :=
  delKeyFaults = 0 → ∀ b, key = some b → reg = some b ∨ DelBusy pc

abbrev NoMix (s : St) : Prop := NoMixOn s.reg s.key s.delKeyFaults s.pc

theorem nomix_move {reg key : Option Nat} {pc : Nat → PC} (hn : NoMixOn reg key n pc)
    (hc : pc p = c) (hp : ∀ a, c ≠ .dneDelKey a) : NoMixOn reg key n (upd pc p c') := by
  intro hd b hb
  refine (hn hd b hb).imp_right fun ⟨q, a, hq⟩ => ⟨q, a, ?_⟩
  have hqp : q ≠ p := by rintro rfl; exact hp a (hc.symm.trans hq)
  rw [upd_other hqp]; exact hq

theorem not_delBusy {s : St} (h1 : Inv1 s) (hlk : s.lock = some p)
    (hc : s.pc p = c) (hp : ∀ a, c ≠ .dneDelKey a) : ¬ DelBusy s.pc := by
  rintro ⟨q, a, hq⟩
  have := h1.inCS_eq hlk (by rw [hq]; rfl)
  subst this; exact hp a (hc.symm.trans hq)

theorem nomix_step {s : St} {e : Ev} {s' : St} (h1 : Inv1 s) (hn : NoMix s) (h : Effect s e s') : NoMix s' := by
  cases h with
  | reads hc hr =>
    -- no pc-only move starts at `dneDelKey` (`start`: it is not `canStart`)
    refine nomix_move hn hc fun a h => ?_
    subst h; cases hr with | start h => cases h
  | fails hc hf =>
    refine nomix_move hn hc fun a h => ?_
    subst h; cases hf with | unlock hr => cases hr
  | keyDeleteFails hc => intro hd; cases hd
  | locks hc _ hr | unlocks hc hr =>
    refine nomix_move hn hc fun a h => ?_
    subst h; cases hr
  | newKey k hc | registered hc | answerLost hc | disowned _ hc =>
    exact nomix_move hn hc nofun
  | regStored hc =>
    -- no complete account was stored and nobody is deleting, so there was no key at all
    have hl := h1.locAt hc
    intro hd b hb
    rcases hn hd b hb with h | h
    · have := stored_none_iff.mpr hl.2.1; rw [stored_some_iff.mpr ⟨h, hb⟩] at this; cases this
    · exact absurd h (not_delBusy h1 hl.1 hc nofun)
  | keyStored hc =>
    have hl := h1.locAt hc
    intro _ b hb; cases hb; exact .inl hl.2.1
  | regRestored hc =>
    -- the key of the account being saved was not stored, and no other key goes with its registration
    have hl := h1.locAt hc
    intro hd b hb
    rcases hn hd b hb with h | h
    · rw [hl.2.1] at h; cases h; exact absurd hb hl.2.2.2
    · exact absurd h (not_delBusy h1 hl.1 hc nofun)
  | forgotten => exact hn
  | regDeleted _ hc => intro _ _ _; exact .inr ⟨_, _, upd_same⟩
  | keyDeleted hc => intro _ _ hb; cases hb

theorem nomix_reach {s : St} (h : Reach s) : NoMix s :=
  reach_induct (P := NoMix) (fun _ _ hb => nomatch hb) (fun hr ih h => nomix_step (inv1_reach hr) ih h) h

/-- storage between two constructions of a run without faults and forgetting: empty with nothing registered, or the
one registered account complete -/
def Rest (reg key : Option Nat) (registers : Nat) : Prop :=
  (registers = 0 ∧ reg = none ∧ key = none) ∨ (registers = 1 ∧ ∃ a, reg = some a ∧ key = some a)

/-- The annotation of a run without faults and forgetting. Outside the critical section: the account a process carries
is the stored one. Inside: how far the one registration and its save have got. `False` where such a run does not get:
`.rollback` (reached only by a failed key store) and the recreate path (entered only when the CA disowns the account of
a constructed client). -/
def Loc3 (reg key : Option Nat) (ca : Nat → Bool) (registers : Nat) : PC → Prop
  | .loadKey a => reg = some a
  | .ready a b => a = b ∧ reg = some a ∧ key = some a
  | .reload | .release none => Rest reg key registers
  | .register _ => registers = 0 ∧ reg = none ∧ key = none
  | .savePre k | .saveReg k => registers = 1 ∧ reg = none ∧ key = none ∧ ca k = true
  | .saveKey _ _ => registers = 1
  | .release (some ab) => registers = 1 ∧ ab.1 = ab.2 ∧ reg = some ab.1 ∧ key = some ab.1
  | .rollback _ _ | .dneLock _ | .dneCheck _ | .dneDelReg _ | .dneDelKey _ | .dneRel _ => False
  | _ => True

/-- without faults and forgetting: one registration, every account in memory is the stored one, and the CA knows it -/
structure QuietOn (lock reg key : Option Nat) (ca : Nat → Bool) (registers : Nat) (pc : Nat → PC) : Prop where
  loc : ∀ p, Loc3 reg key ca registers (pc p)
  free : lock = none → Rest reg key registers
  regKnown : ∀ a, reg = some a → ca a = true
  keyReg : ∀ b, key = some b → reg = some b
  once : registers ≤ 1

abbrev Quiet (s : St) : Prop := QuietOn s.lock s.reg s.key s.ca s.registers s.pc

theorem QuietOn.locAt {reg key : Option Nat} {pc : Nat → PC} (Q : QuietOn l reg key ca n pc) (hc : pc p = c) :
    Loc3 reg key ca n c := hc ▸ Q.loc p

theorem loc3_reads {s : St} (hr : Reads s c c') (hkr : ∀ b, s.key = some b → s.reg = some b)
    (h : Loc3 s.reg s.key s.ca s.registers c) : Loc3 s.reg s.key s.ca s.registers c' := by
  cases hr with
  | regFound hra => exact hra
  | keyFound hkb =>
    have := hkr _ hkb; rw [h] at this; cases this; exact ⟨rfl, h, hkb⟩
  | @reloaded ab hs =>
    -- something complete is stored, so it is the one registered account
    obtain ⟨hra, hkb⟩ := stored_some_iff.mp hs
    have e : ab.1 = ab.2 := Option.some.inj (hra.symm.trans (hkr _ hkb))
    rcases h with h | h
    · rw [h.2.1] at hra; cases hra
    · exact ⟨h.1, e, hra, e ▸ hkb⟩
  | refused => exact .inl h
  | savePre | orderOk => exact h
  | dneMine | dneNotMine | dneNothing => exact h.elim
  | _ => trivial

/-- what a process outside the critical section carries stays true while the stored registration stays and the key
beside it stays -/
theorem loc3_outside (h : Loc3 r k ca n c) (hc : c.inCS = false) (hr : ∀ a, r = some a → r' = some a)
    (hk : ∀ a, r = some a → k = some a → k' = some a) : Loc3 r' k' ca' n' c := by
  cases c with
  | loadKey a => exact hr a h
  | ready a b => exact ⟨h.1, hr a h.2.1, hk a h.2.1 h.2.2⟩
  | dneLock => exact h.elim
  | idle | loadReg | wantLock | failed => trivial
  | _ => cases hc

theorem quiet_step {s : St} {e : Ev} {s' : St} (h1 : Inv1 s) (hq : s.faults = 0 → s.forgets = 0 → Quiet s) (h : Effect s e s')
    (hf' : s'.faults = 0) (hg' : s'.forgets = 0) : Quiet s' := by
  have hf : s.faults = 0 := Nat.le_zero.mp (hf' ▸ h.grows.faults)
  have hg : s.forgets = 0 := Nat.le_zero.mp (hg' ▸ h.grows.forgets)
  have Q := hq hf hg
  -- `{ Q with … }`: the fields not named are those of `Q`, the step leaves what they speak of as it is
  cases h with
  | fails | answerLost | keyDeleteFails => cases hf'
  | forgotten => cases hg'
  | reads hc hr =>
    exact { Q with loc := Upd.forall_upd (loc3_reads (s := s) hr Q.keyReg (Q.locAt hc)) fun q _ => Q.loc q }
  | locks hc hl hk =>
    cases hk with
    | construct => exact { Q with loc := Upd.forall_upd (Q.free hl) fun q _ => Q.loc q, free := nofun }
    | recreate => exact (Q.locAt hc).elim
  | unlocks hc hr =>
    have hp := Q.locAt hc
    cases hr with
    | account =>
      exact { Q with loc := Upd.forall_upd hp.2 fun q _ => Q.loc q, free := fun _ => .inr ⟨hp.1, _, hp.2.2⟩ }
    | error => exact { Q with loc := Upd.forall_upd trivial fun q _ => Q.loc q, free := fun _ => hp }
    | again | giveUp => exact hp.elim
  | newKey k hc hs _ =>
    -- nothing complete is stored, so nothing has been registered
    refine { Q with loc := Upd.forall_upd ?_ fun q _ => Q.loc q }
    rcases Q.locAt hc with h | ⟨_, a, ha, hb⟩
    · exact h
    · rw [stored_some_iff.mpr ⟨ha, hb⟩] at hs; cases hs
  | registered hc =>
    have hp := Q.locAt hc
    have hlk := (h1.locAt hc).1
    have h1' : s.registers + 1 = 1 := congrArg (· + 1) hp.1
    exact ⟨Upd.forall_upd ⟨h1', hp.2.1, hp.2.2, updB_same⟩ fun q hq =>
        loc3_outside (Q.loc q) (h1.outside hlk hq) (fun _ h => h) fun _ _ h => h,
      fun h => (nomatch hlk.symm.trans h), fun a ha => updB_mono (Q.regKnown a ha), Q.keyReg, Nat.le_of_eq h1'⟩
  | regStored hc =>
    have hp := Q.locAt hc
    have hlk := (h1.locAt hc).1
    exact ⟨Upd.forall_upd hp.1 fun q hq =>
        loc3_outside (Q.loc q) (h1.outside hlk hq) (by rw [hp.2.1]; nofun) (by rw [hp.2.1]; nofun),
      fun h => (nomatch hlk.symm.trans h), fun a ha => by cases ha; exact hp.2.2.2,
      fun b hb => (nomatch hp.2.2.1.symm.trans hb), Q.once⟩
  | keyStored hc =>
    have hl := h1.locAt hc
    exact ⟨Upd.forall_upd ⟨Q.locAt hc, rfl, hl.2.1, rfl⟩ fun q hq =>
        loc3_outside (Q.loc q) (h1.outside hl.1 hq) (fun _ h => h) fun a ha _ => hl.2.1.symm.trans ha,
      fun h => (nomatch hl.1.symm.trans h), Q.regKnown, fun b hb => by cases hb; exact hl.2.1, Q.once⟩
  | disowned _ hc hca =>
    -- a constructed client holds the stored account, which the CA knows
    exact (Bool.false_ne_true (hca.symm.trans (Q.regKnown _ (Q.locAt hc).2.1))).elim
  | regRestored hc | regDeleted _ hc | keyDeleted hc => exact (Q.locAt hc).elim

theorem quiet_reach {s : St} (h : Reach s) : s.faults = 0 → s.forgets = 0 → Quiet s :=
  reach_induct (P := fun s => s.faults = 0 → s.forgets = 0 → Quiet s)
    (fun _ _ => ⟨fun _ => trivial, fun _ => .inl ⟨rfl, rfl, rfl⟩, nofun, nofun, Nat.zero_le 1⟩)
    (fun hr ih h => quiet_step (inv1_reach hr) ih h)
    h

end CM.Account
