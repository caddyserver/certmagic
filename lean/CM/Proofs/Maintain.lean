import CM.Model.Maintain
import CM.Lib.Upd
/-!
Lemmas for C05 (`CM/Props/C05.lean`): the cache operations; the inductive invariant `Inv` and its
preservation by every event; what the scan puts on which queue; what executing a plan does, seen
from one subject (`SameAt`), one cached entry (`exec_mem`) and one hash (`Adopted`). The part of a pass
before the one action that a theorem is about, and the part after it, are again `exec due t p` for a plan
`p` made of parts of the scan's queues: so what `exec` does is stated for every plan.
-/
namespace CM.Maintain

@[simp] theorem upd_same {α : Type} (f : Name → α) (k : Name) (v : α) : upd f k v k = v := if_pos rfl

theorem upd_other {α : Type} (f : Name → α) (v : α) {k n : Name} (h : n ≠ k) : upd f k v n = f n := if_neg h

namespace Cache

theorem has_iff (c : Cache) (i : CertId) : c.has i = true ↔ ∃ e ∈ c.entries, e.cert.id = i := by
  simp [has, List.any_eq_true]

theorem has_false_iff (c : Cache) (i : CertId) : c.has i = false ↔ ∀ e ∈ c.entries, e.cert.id ≠ i := by
  simp [has]

theorem mem_remove_entries (c : Cache) (x : Cert) (e : Entry) :
    e ∈ (c.remove x).entries ↔ e ∈ c.entries ∧ e.cert.id ≠ x.id := by
  simp [remove, List.mem_filter]

theorem mem_remove_index (c : Cache) (x : Cert) (n : Name) (i : CertId) :
    i ∈ (c.remove x).index n ↔ i ∈ c.index n ∧ ¬ (n ∈ x.names ∧ i = x.id) := by
  simp only [remove]
  split <;> simp [*, List.mem_filter]

theorem add_of_has (c : Cache) (e : Entry) (h : c.has e.cert.id = true) : c.add e = c := by
  simp [add, h]

theorem mem_add_entries (c : Cache) (e e' : Entry) :
    e' ∈ (c.add e).entries ↔ e' ∈ c.entries ∨ (c.has e.cert.id = false ∧ e' = e) := by
  unfold add
  cases h : c.has e.cert.id <;> simp

theorem mem_add_index (c : Cache) (e : Entry) (n : Name) (i : CertId) :
    i ∈ (c.add e).index n ↔
      i ∈ c.index n ∨ (c.has e.cert.id = false ∧ i = e.cert.id ∧ n ∈ e.cert.names) := by
  unfold add
  cases h : c.has e.cert.id <;> simp [List.mem_replicate, List.count_eq_zero, and_comm]

/-- the cache and its name index agree, and hashes identify entries -/
structure WF (c : Cache) : Prop where
  uniq : ∀ e₁ ∈ c.entries, ∀ e₂ ∈ c.entries, e₁.cert.id = e₂.cert.id → e₁ = e₂
  idx : ∀ n i, i ∈ c.index n ↔ ∃ e ∈ c.entries, e.cert.id = i ∧ n ∈ e.cert.names

theorem WF.empty : WF Cache.empty := ⟨by simp [Cache.empty], by simp [Cache.empty]⟩

theorem WF.add {c : Cache} (h : WF c) (e : Entry) : WF (c.add e) := by
  cases hh : c.has e.cert.id
  · have hne := (has_false_iff c _).mp hh
    constructor
    · intro e₁ h₁ e₂ h₂ hid
      rw [mem_add_entries] at h₁ h₂
      rcases h₁ with h₁ | ⟨_, rfl⟩ <;> rcases h₂ with h₂ | ⟨_, rfl⟩
      · exact h.uniq _ h₁ _ h₂ hid
      · exact absurd hid (hne _ h₁)
      · exact absurd hid.symm (hne _ h₂)
      · rfl
    · intro n i
      simp only [mem_add_index, mem_add_entries, h.idx, hh, true_and, or_and_right, exists_or,
        exists_eq_left', eq_comm]
  · rw [add_of_has c e hh]; exact h

/-- removing `x` keeps the agreement provided an entry with `x`'s hash has `x`'s names -/
theorem WF.remove {c : Cache} (h : WF c) (x : Cert)
    (hx : ∀ e ∈ c.entries, e.cert.id = x.id → e.cert.names = x.names) : WF (c.remove x) := by
  constructor
  · intro e₁ h₁ e₂ h₂ hid
    exact h.uniq _ ((mem_remove_entries ..).mp h₁).1 _ ((mem_remove_entries ..).mp h₂).1 hid
  · intro n i
    rw [mem_remove_index, h.idx]
    constructor
    · rintro ⟨⟨e, he, hi, hn⟩, hnot⟩
      refine ⟨e, (mem_remove_entries ..).mpr ⟨he, ?_⟩, hi, hn⟩
      intro hex
      exact hnot ⟨by rw [← hx e he hex]; exact hn, by rw [← hi, hex]⟩
    · rintro ⟨e, he, hi, hn⟩
      have he' := (mem_remove_entries ..).mp he
      exact ⟨⟨e, he'.1, hi, hn⟩, fun hh => he'.2 (by rw [hi]; exact hh.2)⟩

theorem WF.index_kept {c c' : Cache} (h : WF c) (h' : WF c') {e : Entry} (he : e ∈ c.entries)
    (he' : e ∈ c'.entries) {n : Name} (hn : e.cert.id ∈ c.index n) : e.cert.id ∈ c'.index n := by
  obtain ⟨e₁, he₁, hi, hn₁⟩ := (h.idx n _).mp hn
  rw [h.uniq e₁ he₁ e he hi] at hn₁
  exact (h'.idx n _).mpr ⟨e, he', rfl, hn₁⟩

/-- no entry has hash `x` (so, by `WF`, no row mentions it: `WF.not_mem_index`) -/
def Absent (x : CertId) (c : Cache) : Prop := ∀ e ∈ c.entries, e.cert.id ≠ x

theorem WF.not_mem_index {c : Cache} (h : WF c) {x : CertId} (hx : Absent x c) (n : Name) : x ∉ c.index n :=
  fun hn => let ⟨e, he, hi, _⟩ := (h.idx n x).mp hn; hx e he hi

theorem absent_remove_self (c : Cache) (x : Cert) : Absent x.id (c.remove x) :=
  fun _ he => ((mem_remove_entries ..).mp he).2

theorem absent_remove {x : CertId} {c : Cache} (h : Absent x c) (old : Cert) : Absent x (c.remove old) :=
  fun e he => h e ((mem_remove_entries ..).mp he).1

theorem absent_add {x : CertId} {c : Cache} (h : Absent x c) (e : Entry) (hne : e.cert.id ≠ x) :
    Absent x (c.add e) := by
  intro e' he'
  rcases (mem_add_entries ..).mp he' with he' | ⟨_, rfl⟩
  · exact h e' he'
  · exact hne

theorem has_add_self (c : Cache) (e : Entry) : (c.add e).has e.cert.id = true := by
  cases h : c.has e.cert.id
  · exact (has_iff ..).mpr ⟨e, (mem_add_entries ..).mpr (Or.inr ⟨h, rfl⟩), rfl⟩
  · rw [add_of_has c e h]; exact h

end Cache

variable (due : Int → Cert → Bool)

def JobKind.cert? : JobKind → Option Cert
  | .pass c => some c
  | .mrenew c => some c
  | .mforce c => some c
  | .mobtain => none

/-- certificate identities are coherent: everything in the cache, in storage and in job
closures was made by the CA (`issued`), identities in `issued` are unique and never ahead
of the CA's per-subject counter -/
structure Reg (s : State) : Prop where
  fn : ∀ x ∈ s.issued, ∀ y ∈ s.issued, x.id = y.id → x = y
  bound : ∀ x ∈ s.issued, x.id.ver ≤ s.ver x.id.name
  cache : ∀ e ∈ s.cache.entries, e.cert ∈ s.issued
  store : ∀ k c, s.store k = .ok c → c ∈ s.issued
  own : ∀ k c, s.store k = .ok c → c.id.name = k          -- a bundle is stored under its own subject
  jobs : ∀ j ∈ s.jobs, ∀ c, j.kind.cert? = some c → c ∈ s.issued

def named (n : Name) (j : Job) : Bool := j.jname == some n

structure Inv (s : State) : Prop where
  wf : s.cache.WF
  reg : Reg s
  one : ∀ n, s.jobs.countP (named n) ≤ 1

theorem inv_init (life : Int) : Inv (init life) := by
  refine ⟨Cache.WF.empty, ⟨?_, ?_, ?_, ?_, ?_, ?_⟩, ?_⟩ <;> simp [init, Cache.empty]

/-- `Inv` reads only `cache store ver issued jobs`: the defaults discharge every field a record update
leaves alone; jobs may leave the table -/
theorem Inv.congr {s s' : State} (h : Inv s) (hc : s'.cache = s.cache := by rfl)
    (hs : s'.store = s.store := by rfl) (hv : s'.ver = s.ver := by rfl)
    (hi : s'.issued = s.issued := by rfl) (hj : s'.jobs.Sublist s.jobs := by exact List.Sublist.refl _) :
    Inv s' := by
  obtain ⟨wf, ⟨fn, bound, cache, store, own, jobs⟩, one⟩ := h
  refine ⟨by rw [hc]; exact wf, ⟨?_, ?_, ?_, ?_, ?_, ?_⟩, fun n => Nat.le_trans hj.countP_le (one n)⟩
  · rw [hi]; exact fn
  · rw [hi, hv]; exact bound
  · rw [hi, hc]; exact cache
  · rw [hi, hs]; exact store
  · rw [hs]; exact own
  · rw [hi]; exact fun j hj' => jobs j (hj.subset hj')

theorem Inv.cacheAdd {s : State} (h : Inv s) (c : Cert) (m : Bool) (hc : c ∈ s.issued) :
    Inv { s with cache := s.cache.add ⟨c, m⟩ } :=
  { h with
    wf := h.wf.add _
    reg := { h.reg with
      cache := fun e he => ((Cache.mem_add_entries ..).mp he).elim (h.reg.cache e)
        (fun ⟨_, he⟩ => by rw [he]; exact hc) } }

theorem Inv.cert_of_id {s : State} (h : Inv s) {x : Cert} (hx : x ∈ s.issued) :
    ∀ e ∈ s.cache.entries, e.cert.id = x.id → e.cert = x :=
  fun e he hi => h.reg.fn _ (h.reg.cache e he) _ hx hi

theorem Inv.cacheRemove {s : State} (h : Inv s) (x : Cert) (hx : x ∈ s.issued) :
    Inv { s with cache := s.cache.remove x } :=
  { h with
    wf := h.wf.remove x (fun e he hi => by rw [h.cert_of_id hx e he hi])
    reg := { h.reg with cache := fun e he => h.reg.cache e ((Cache.mem_remove_entries ..).mp he).1 } }

theorem Reg.fresh {s : State} (h : Reg s) (k : Name) : ∀ x ∈ s.issued, x.id ≠ ⟨k, s.ver k + 1⟩ := by
  intro x hx hid
  have hb := h.bound x hx
  rw [hid] at hb
  exact Nat.not_succ_le_self _ hb

/-- the CA makes certificate `c`, the next one for subject `k` -/
theorem Inv.mint {s : State} (h : Inv s) (k : Name) (c : Cert) (hc : c.id = ⟨k, s.ver k + 1⟩) :
    Inv { s with ver := upd s.ver k (s.ver k + 1), issued := s.issued ++ [c] } := by
  have hfresh : ∀ x ∈ s.issued, x.id ≠ c.id := fun x hx => hc ▸ h.reg.fresh k x hx
  refine { h with reg :=
    { fn := ?_, bound := ?_, own := h.reg.own
      cache := fun e he => List.mem_append_left _ (h.reg.cache e he)
      store := fun k' c' hc' => List.mem_append_left _ (h.reg.store k' c' hc')
      jobs := fun j hj c' hc' => List.mem_append_left _ (h.reg.jobs j hj c' hc') } }
  · intro x hx y hy hid
    simp only [List.mem_append, List.mem_singleton] at hx hy
    rcases hx with hx | rfl <;> rcases hy with hy | rfl
    · exact h.reg.fn x hx y hy hid
    · exact absurd hid (hfresh x hx)
    · exact absurd hid.symm (hfresh y hy)
    · rfl
  · intro x hx
    simp only [List.mem_append, List.mem_singleton] at hx
    show x.id.ver ≤ upd s.ver k (s.ver k + 1) x.id.name
    rcases hx with hx | rfl
    · exact Nat.le_trans (h.reg.bound x hx)
        (Upd.forall_upd (P := fun n v => s.ver n ≤ v) (Nat.le_succ _) (fun _ _ => Nat.le_refl _) _)
    · rw [hc, upd_same]; exact Nat.le_refl _

theorem Inv.storeSet {s : State} (h : Inv s) (k : Name) (v : Stored)
    (hv : ∀ c, v = .ok c → c ∈ s.issued ∧ c.id.name = k) : Inv { s with store := upd s.store k v } := by
  have : ∀ k' c, upd s.store k v k' = .ok c → c ∈ s.issued ∧ c.id.name = k' :=
    Upd.forall_upd (P := fun k' (st : Stored) => ∀ c, st = .ok c → c ∈ s.issued ∧ c.id.name = k') hv
      (fun k' _ c hc => ⟨h.reg.store k' c hc, h.reg.own k' c hc⟩)
  exact { h with reg := { h.reg with store := fun k' c hc => (this k' c hc).1, own := fun k' c hc => (this k' c hc).2 } }

theorem inv_issue {s : State} (h : Inv s) (i : Nat) (k : Name) : Inv (issue s i k) :=
  ((h.mint k (newCert s k) rfl).storeSet k (.ok (newCert s k))
    (fun c hc => by cases hc; exact ⟨List.mem_append_right _ (List.mem_singleton.mpr rfl), rfl⟩)).congr

/-- a job that may be put into the table -/
def Good (s : State) (j : Job) : Prop :=
  (∀ c, j.kind.cert? = some c → c ∈ s.issued) ∧ (∀ n, j.jname = some n → s.jobs.countP (named n) = 0)

theorem Inv.addJob {s : State} (h : Inv s) (j : Job) (hg : Good s j) : Inv { s with jobs := s.jobs ++ [j] } := by
  refine { h with reg := { h.reg with jobs := ?_ }, one := ?_ }
  · exact List.forall_mem_append.mpr ⟨h.reg.jobs, List.forall_mem_singleton.mpr hg.1⟩
  · intro n
    rw [List.countP_append, List.countP_cons, List.countP_nil]
    by_cases hn : named n j = true
    · have hj : j.jname = some n := by simpa [named] using hn
      rw [hg.2 n hj, if_pos hn]; omega
    · have := h.one n
      rw [if_neg hn]; omega

/-- `s'` extends `s`: the invariant holds in `s'` and every certificate issued in `s` is issued in `s'` -/
structure Ext (s s' : State) : Prop where
  inv : Inv s'
  sub : ∀ c ∈ s.issued, c ∈ s'.issued

theorem Ext.refl {s : State} (h : Inv s) : Ext s s := ⟨h, fun _ hc => hc⟩

theorem Ext.trans {a b c : State} (h₁ : Ext a b) (h₂ : Ext b c) : Ext a c :=
  ⟨h₂.inv, fun x hx => h₂.sub x (h₁.sub x hx)⟩

theorem Ext.lock {s t : State} {k : Name} (h : Ext (takeLock s k) t) : Ext s t := ⟨h.inv, h.sub⟩

theorem Good.mono {s s' : State} {j : Job} (hg : Good s j) (hs : Ext s s') (hj : s'.jobs = s.jobs) : Good s' j :=
  ⟨fun c hc => hs.sub c (hg.1 c hc), fun n hn => by rw [hj]; exact hg.2 n hn⟩

theorem loadEntry_eq_some {s : State} {k : Name} {e : Entry} :
    loadEntry s k = some e ↔ ∃ w, s.store k = .ok w ∧ e = ⟨w, true⟩ := by
  unfold loadEntry
  cases s.store k <;> simp [eq_comm]

theorem reload_ok {s : State} {k : Name} {w : Cert} (h : s.store k = .ok w) (old : Cert) :
    reload s old k = { s with cache := s.cache.replace old ⟨w, true⟩ } := by
  simp only [reload, loadEntry, h]

theorem reload_cases (s : State) (old : Cert) (k : Name) :
    reload s old k = s ∨
      ∃ w, s.store k = .ok w ∧ reload s old k = { s with cache := s.cache.replace old ⟨w, true⟩ } := by
  fun_cases reload s old k
  next e he =>
    obtain ⟨w, hw, rfl⟩ := loadEntry_eq_some.mp he
    exact Or.inr ⟨w, hw, rfl⟩
  next => exact Or.inl rfl

theorem reload_eq (s : State) (old : Cert) (k : Name) :
    reload s old k = { s with cache := (reload s old k).cache } := by
  rcases reload_cases s old k with e | ⟨w, _, e⟩ <;> rw [e]

theorem reload_ext {s : State} (h : Inv s) (old : Cert) (k : Name) (ho : old ∈ s.issued) :
    Ext s (reload s old k) := by
  rcases reload_cases s old k with e | ⟨w, hw, e⟩ <;> rw [e]
  · exact .refl h
  · exact ⟨(h.cacheRemove old ho).cacheAdd w true (h.reg.store k w hw), fun _ hc => hc⟩

theorem finishOk_ext {s : State} (h : Inv s) (j : Job) (hj : ∀ c, j.kind.cert? = some c → c ∈ s.issued) :
    Ext s (finishOk s j) := by
  unfold finishOk
  cases hk : j.kind with
  | pass c | mrenew c | mforce c => exact reload_ext h c _ (hj c (by rw [hk]; rfl))
  | mobtain =>
    dsimp only
    split
    · rename_i e he
      obtain ⟨w, hw, rfl⟩ := loadEntry_eq_some.mp he
      exact ⟨h.cacheAdd w true (h.reg.store _ w hw), fun _ hc => hc⟩
    · exact .refl h

theorem removeOld_ext {t : State} (h : Inv t) (c : Cert) (hc : c ∈ t.issued) : Ext t (removeOld t c) :=
  ⟨h.cacheRemove c hc, fun _ h => h⟩

theorem finishFail_ext {s : State} (h : Inv s) (j : Job) (hj : ∀ c, j.kind.cert? = some c → c ∈ s.issued) :
    Ext s (finishFail s j) := by
  fun_cases finishFail s j
  next old hk hod => exact removeOld_ext h old (hj old (by rw [hk]; rfl))
  next => exact .refl h
  next c hk => exact removeOld_ext h c (hj c (by rw [hk]; rfl))
  next => exact .refl h

theorem settle_cases (s : State) (j : Job) (r : Res) :
    (r = .done ∧ settle s j r = finishOk s j) ∨ (r ≠ .done ∧ settle s j r = finishFail s j) ∨
      ∃ j', settle s j r = { s with jobs := s.jobs ++ [j'] } ∧ j'.jname = j.jname ∧ j'.kind = j.kind := by
  fun_cases settle s j r
  · exact Or.inl ⟨rfl, rfl⟩
  · exact Or.inr (Or.inl ⟨by decide, rfl⟩)
  · exact Or.inr (Or.inr ⟨_, rfl, rfl, rfl⟩)
  · exact Or.inr (Or.inr ⟨_, rfl, rfl, rfl⟩)
  · exact Or.inr (Or.inl ⟨by decide, rfl⟩)

theorem settle_ext {s : State} (h : Inv s) (j : Job) (r : Res) (hg : Good s j) : Ext s (settle s j r) := by
  rcases settle_cases s j r with ⟨_, e⟩ | ⟨_, e⟩ | ⟨j', e, hn, hk⟩ <;> rw [e]
  · exact finishOk_ext h j hg.1
  · exact finishFail_ext h j hg.1
  · exact ⟨h.addJob j' ⟨by rw [hk]; exact hg.1, by rw [hn]; exact hg.2⟩, fun _ hc => hc⟩

theorem needIssue_true_iff (s : State) (k : Name) (core : Core) : needIssue due s k core = some true ↔
    (core = .obtain ∧ s.store k = .none) ∨
      ∃ force, core = .renew force ∧ s.store k ≠ .none ∧ (force = true ∨ storedDue due s.now (s.store k) = true) := by
  unfold needIssue
  cases core <;> cases s.store k <;> simp [storedDue]

theorem needIssue_false_iff (s : State) (k : Name) (core : Core) : needIssue due s k core = some false ↔
    (core = .obtain ∧ s.store k ≠ .none) ∨
      (core = .renew false ∧ s.store k ≠ .none ∧ storedDue due s.now (s.store k) = false) := by
  unfold needIssue
  cases core <;> cases s.store k <;> simp [storedDue]

theorem attempt_cases (s : State) (k : Name) (core : Core) :
    (needIssue due s k core = none ∧ attempt due s k core = (.softErr, s)) ∨
    (needIssue due s k core = some false ∧ attempt due s k core = (.done, s)) ∨
    (needIssue due s k core = some true ∧
      ((s.mode k = .ok ∧ attempt due s k core = (.done, issue s 0 k)) ∨
        ∃ r l, r ≠ .done ∧ attempt due s k core = (r, logRes s 0 k l))) := by
  fun_cases attempt due s k core
  next h => exact Or.inl ⟨h, rfl⟩
  next h => exact Or.inr (Or.inl ⟨h, rfl⟩)
  next h hm => exact Or.inr (Or.inr ⟨h, Or.inl ⟨hm, rfl⟩⟩)
  next h hm => exact Or.inr (Or.inr ⟨h, Or.inr ⟨.hardErr, _, by decide, rfl⟩⟩)
  next h hm => exact Or.inr (Or.inr ⟨h, Or.inr ⟨.softErr, _, by decide, rfl⟩⟩)
  next h hm => exact Or.inr (Or.inr ⟨h, Or.inr ⟨.held, _, by decide, rfl⟩⟩)

theorem attempt_issues {s : State} {k : Name} {core : Core} (hn : needIssue due s k core = some true)
    (hm : s.mode k = .ok) : attempt due s k core = (.done, issue s 0 k) := by
  simp only [attempt, hn, hm]

theorem attempt_done {s : State} {k : Name} {core : Core} (h : (attempt due s k core).1 = .done) :
    needIssue due s k core = some false ∨ s.mode k = .ok := by
  rcases attempt_cases due s k core with ⟨_, e⟩ | ⟨hn, _⟩ | ⟨_, ⟨hm, _⟩ | ⟨r, l, hr, e⟩⟩
  · rw [e] at h; cases h
  · exact Or.inl hn
  · exact Or.inr hm
  · rw [e] at h; exact absurd h hr

theorem attempt_state (s : State) (k : Name) (core : Core) :
    (attempt due s k core).2 = s ∨ needIssue due s k core = some true ∧
      ((attempt due s k core).2 = issue s 0 k ∨ ∃ l, (attempt due s k core).2 = logRes s 0 k l) := by
  rcases attempt_cases due s k core with ⟨_, e⟩ | ⟨_, e⟩ | ⟨hn, ⟨_, e⟩ | ⟨r, l, _, e⟩⟩ <;> rw [e]
  · exact Or.inl rfl
  · exact Or.inl rfl
  · exact Or.inr ⟨hn, Or.inl rfl⟩
  · exact Or.inr ⟨hn, Or.inr ⟨l, rfl⟩⟩

theorem attempt_ext {s : State} (h : Inv s) (k : Name) (core : Core) : Ext s (attempt due s k core).2 := by
  rcases attempt_state due s k core with e | ⟨_, e | ⟨l, e⟩⟩ <;> rw [e]
  · exact .refl h
  · exact ⟨inv_issue h 0 k, fun _ hc => List.mem_append_left _ hc⟩
  · exact ⟨h.congr, fun _ hc => hc⟩

theorem attempt_lock_ext {s : State} (h : Inv s) (k : Name) (core : Core) :
    Ext s (attempt due (takeLock s k) k core).2 :=
  (attempt_ext due (s := takeLock s k) h.congr k core).lock

/-- `jm.Submit`: a job whose name is queued or running is dropped, any other is run at once (its test
"is a job of that name queued or running" is `countP (named n)`) -/
theorem submit_cases (s : State) (j : Job) :
    (∃ n, j.jname = some n ∧ 0 < s.jobs.countP (named n) ∧ submit due s j = s) ∨
      ((∀ n, j.jname = some n → s.jobs.countP (named n) = 0) ∧
        submit due s j = runJob due (takeLock s j.subj) j) := by
  fun_cases submit due s j
  next n hn hany => exact Or.inl ⟨n, hn, List.countP_pos_iff.mpr (List.any_eq_true.mp hany), rfl⟩
  next n hn hany =>
    refine Or.inr ⟨fun n' hn' => ?_, rfl⟩
    rw [hn] at hn'; cases hn'
    exact List.countP_eq_zero.mpr (List.any_eq_false.mp (Bool.eq_false_iff.mpr hany))
  next hn => exact Or.inr ⟨fun n hn' => (by rw [hn] at hn'; cases hn'), rfl⟩

theorem submitPass_eq (t : State) (c : Cert) :
    submitPass due t c = if t.jobs.countP (named (c.names.headD 0)) = 0
      then runJob due (takeLock t (c.names.headD 0)) (passJob t c) else t := by
  rcases submit_cases due t (passJob t c) with ⟨n, hn, hpos, e⟩ | ⟨hfree, e⟩
  · cases hn; rw [if_neg (Nat.ne_of_gt hpos)]; exact e
  · rw [if_pos (hfree _ rfl)]; exact e

theorem mem_insertCert_of_mem {l : List Cert} {c x : Cert} (h : c ∈ l) : c ∈ insertCert l x := by
  fun_cases insertCert l x
  · exact h
  · exact List.mem_append_left _ h

theorem mem_insertCert {l : List Cert} {c x : Cert} (h : c ∈ insertCert l x) : c ∈ l ∨ c = x := by
  revert h
  fun_cases insertCert l x
  · exact Or.inl
  · exact fun h => (List.mem_append.mp h).imp_right List.mem_singleton.mp

theorem insertCert_has_id (l : List Cert) (x : Cert) : ∃ c ∈ insertCert l x, c.id = x.id := by
  fun_cases insertCert l x
  next h =>
    obtain ⟨c, hc, hi⟩ := List.any_eq_true.mp h
    exact ⟨c, hc, by simpa using hi⟩
  next => exact ⟨x, List.mem_append_right _ (List.mem_singleton.mpr rfl), rfl⟩

abbrev DistinctIds (l : List Cert) : Prop := l.Pairwise (fun a b => a.id ≠ b.id)

theorem insertCert_distinct {l : List Cert} (h : DistinctIds l) (c : Cert) : DistinctIds (insertCert l c) := by
  fun_cases insertCert l c
  next => exact h
  next hany =>
    refine List.pairwise_append.mpr ⟨h, List.pairwise_singleton _ _, ?_⟩
    intro a ha b hb hid
    rw [List.mem_singleton.mp hb] at hid
    exact hany (List.any_eq_true.mpr ⟨a, ha, by simp [hid]⟩)

/-- the fold keeps hashes distinct, adds only members of `l`, and represents every hash of `acc` and `l` -/
theorem foldl_insertCert (l : List Cert) : ∀ acc, DistinctIds acc →
    DistinctIds (l.foldl insertCert acc) ∧ (∀ c ∈ l.foldl insertCert acc, c ∈ acc ∨ c ∈ l) ∧
      ∀ c, c ∈ acc ∨ c ∈ l → ∃ c' ∈ l.foldl insertCert acc, c'.id = c.id := by
  induction l with
  | nil => intro acc h; exact ⟨h, fun c hc => Or.inl hc, fun c hc => ⟨c, hc.resolve_right List.not_mem_nil, rfl⟩⟩
  | cons x l ih =>
    intro acc h
    obtain ⟨h1, h2, h3⟩ := ih (insertCert acc x) (insertCert_distinct h x)
    refine ⟨h1, fun c hc => ?_, fun c hc => ?_⟩
    · rcases h2 c hc with hc | hc
      · exact (mem_insertCert hc).imp_right (fun hx => by rw [hx]; exact List.mem_cons_self)
      · exact Or.inr (List.mem_cons_of_mem _ hc)
    · rcases hc with hc | hc
      · exact h3 c (Or.inl (mem_insertCert_of_mem hc))
      · rcases List.mem_cons.mp hc with rfl | hc
        · obtain ⟨c', hc', hi⟩ := insertCert_has_id acc c
          obtain ⟨c'', hc'', hi'⟩ := h3 c' (Or.inl hc')
          exact ⟨c'', hc'', hi'.trans hi⟩
        · exact h3 c (Or.inr hc)

def Plan.queue (p : Plan) : Queue → List Cert
  | .skip => []
  | .del => p.del
  | .renew => p.renew
  | .reload => p.reload

def queued (s : State) (q : Queue) (l : List Entry) : List Cert :=
  (l.filter (fun e => classify due s e = q)).map (·.cert)

theorem mem_queued {s : State} {q : Queue} {l : List Entry} {c : Cert} :
    c ∈ queued due s q l ↔ ∃ e ∈ l, e.cert = c ∧ classify due s e = q := by
  simp only [queued, List.mem_map, List.mem_filter, decide_eq_true_eq]
  exact ⟨fun ⟨e, ⟨he, hq⟩, hc⟩ => ⟨e, he, hc, hq⟩, fun ⟨e, he, hc, hq⟩ => ⟨e, ⟨he, hq⟩, hc⟩⟩

theorem scan_fold (s : State) (l : List Entry) (p : Plan) :
    l.foldl (scanStep due s) p =
      ⟨p.reload ++ queued due s .reload l, (queued due s .renew l).foldl insertCert p.renew,
       p.del ++ queued due s .del l⟩ := by
  induction l generalizing p with
  | nil => simp [queued]
  | cons e l ih =>
    rw [List.foldl_cons, ih]
    unfold scanStep
    cases h : classify due s e <;> simp [queued, h]

theorem scan_eq (s : State) : scan due s =
    ⟨queued due s .reload s.cache.entries, (queued due s .renew s.cache.entries).foldl insertCert [],
     queued due s .del s.cache.entries⟩ := by
  simpa [scan] using scan_fold due s s.cache.entries ⟨[], [], []⟩

theorem mem_scan_queue {s : State} (q : Queue) {c : Cert} (h : c ∈ (scan due s).queue q) :
    ∃ e ∈ s.cache.entries, e.cert = c ∧ classify due s e = q := by
  rw [scan_eq] at h
  cases q
  · cases h
  · exact (mem_queued due).mp h
  · exact (mem_queued due).mp (((foldl_insertCert _ [] List.Pairwise.nil).2.1 c h).resolve_left List.not_mem_nil)
  · exact (mem_queued due).mp h

theorem scan_queue_of_id {s : State} (hwf : s.cache.WF) {e : Entry} (he : e ∈ s.cache.entries) (q : Queue)
    {c : Cert} (hc : c ∈ (scan due s).queue q) (hid : c.id = e.cert.id) : c = e.cert ∧ classify due s e = q := by
  obtain ⟨e', he', hce, hq⟩ := mem_scan_queue due q hc
  have : e' = e := hwf.uniq e' he' e he (by rw [hce]; exact hid)
  rw [← hce, ← hq, this]; exact ⟨rfl, rfl⟩

theorem scan_reload_mem {s : State} {e : Entry} (he : e ∈ s.cache.entries) (hcl : classify due s e = .reload) :
    e.cert ∈ (scan due s).reload := by
  rw [scan_eq]; exact (mem_queued due).mpr ⟨e, he, rfl, hcl⟩

theorem scan_renew_mem {s : State} (hwf : s.cache.WF) {e : Entry} (he : e ∈ s.cache.entries)
    (hcl : classify due s e = .renew) : e.cert ∈ (scan due s).renew := by
  obtain ⟨c, hc, hi⟩ := (foldl_insertCert _ [] List.Pairwise.nil).2.2 e.cert
    (Or.inr ((mem_queued due).mpr ⟨e, he, rfl, hcl⟩))
  have hc' : c ∈ (scan due s).queue .renew := by rw [scan_eq]; exact hc
  rw [← (scan_queue_of_id due hwf he .renew hc' hi).1]; exact hc'

theorem scan_renew_distinct (s : State) : DistinctIds (scan due s).renew := by
  rw [scan_eq]; exact (foldl_insertCert _ [] List.Pairwise.nil).1

theorem scan_issued {s : State} (h : Inv s) (q : Queue) {c : Cert} (hc : c ∈ (scan due s).queue q) :
    c ∈ s.issued := by
  obtain ⟨e, he, rfl, _⟩ := mem_scan_queue due q hc
  exact h.reg.cache e he

/-- indexed by the queue: read at a constructor (`classify_spec due (hcl : classify due s e = .renew)` is the `.renew` row) -/
theorem classify_spec {s : State} {e : Entry} {q : Queue} (h : classify due s e = q) :
    match (generalizing := false) q with
    | .skip => True
    | .del => e.managed = true ∧ e.cert.names = []
    | .renew => e.managed = true ∧ s.od = false ∧ due s.now e.cert = true ∧
        ∃ k rest, e.cert.names = k :: rest ∧ storedDue due s.now (s.store k) = true
    | .reload => e.managed = true ∧ s.od = false ∧ due s.now e.cert = true ∧
        ∃ k rest v, e.cert.names = k :: rest ∧ s.store k = .ok v ∧ due s.now v = false := by
  subst h
  fun_cases classify due s e
  next => trivial
  next hm hn => exact ⟨Bool.not_not_eq.mp hm, hn⟩
  next => trivial
  next => trivial
  next hm k rest hn hod hd hst =>
    exact ⟨Bool.not_not_eq.mp hm, Bool.eq_false_iff.mpr hod, Bool.not_not_eq.mp hd, k, rest, hn, by rw [hst]; rfl⟩
  next hm k rest hn hod hd _ hsd =>
    exact ⟨Bool.not_not_eq.mp hm, Bool.eq_false_iff.mpr hod, Bool.not_not_eq.mp hd, k, rest, hn, hsd⟩
  next hm k rest hn hod hd hne hsd =>
    refine ⟨Bool.not_not_eq.mp hm, Bool.eq_false_iff.mpr hod, Bool.not_not_eq.mp hd, k, rest, ?_⟩
    cases hst : s.store k with
    | none => exact absurd hst hne
    | corrupt => rw [hst] at hsd; exact absurd rfl hsd
    | ok v => rw [hst] at hsd; exact ⟨v, hn, rfl, Bool.eq_false_iff.mpr hsd⟩

theorem scan_due {s : State} {c : Cert} (hc : c ∈ (scan due s).reload ∨ c ∈ (scan due s).renew) :
    due s.now c = true := by
  rcases hc with hc | hc
  · obtain ⟨e, _, rfl, hcl⟩ := mem_scan_queue due .reload hc
    exact (classify_spec due hcl).2.2.1
  · obtain ⟨e, _, rfl, hcl⟩ := mem_scan_queue due .renew hc
    exact (classify_spec due hcl).2.2.1

theorem scan_renew_storedDue {s : State} {c : Cert} (hc : c ∈ (scan due s).renew) :
    storedDue due s.now (s.store (c.names.headD 0)) = true := by
  obtain ⟨e, _, rfl, hcl⟩ := mem_scan_queue due .renew hc
  obtain ⟨_, _, _, k, rest, hn, hsd⟩ := classify_spec due hcl
  rw [hn]; exact hsd

/-- the fields a job never touches -/
def SameEnv (s s' : State) : Prop :=
  s'.now = s.now ∧ s'.life = s.life ∧ s'.od = s.od ∧ s'.mode = s.mode ∧ s'.revoked = s.revoked

theorem SameEnv.now {s s' : State} (h : SameEnv s s') : s'.now = s.now := h.1
theorem SameEnv.life {s s' : State} (h : SameEnv s s') : s'.life = s.life := h.2.1
theorem SameEnv.od {s s' : State} (h : SameEnv s s') : s'.od = s.od := h.2.2.1
theorem SameEnv.mode {s s' : State} (h : SameEnv s s') : s'.mode = s.mode := h.2.2.2.1

theorem SameEnv.refl (s : State) : SameEnv s s := ⟨rfl, rfl, rfl, rfl, rfl⟩
theorem SameEnv.trans {a b c : State} (h₁ : SameEnv a b) (h₂ : SameEnv b c) : SameEnv a c :=
  ⟨h₂.now.trans h₁.now, h₂.life.trans h₁.life, h₂.od.trans h₁.od, h₂.mode.trans h₁.mode,
   h₂.2.2.2.2.trans h₁.2.2.2.2⟩

def LogExt (P : LogEntry → Prop) (s s' : State) : Prop := ∃ l, s'.log = s.log ++ l ∧ ∀ le ∈ l, P le

theorem LogExt.of_eq {P : LogEntry → Prop} {a b : State} (h : b.log = a.log) : LogExt P a b :=
  ⟨[], by simp [h], by simp⟩

theorem LogExt.trans {P : LogEntry → Prop} {a b c : State} (h₁ : LogExt P a b) (h₂ : LogExt P b c) :
    LogExt P a c := by
  obtain ⟨l₁, e₁, p₁⟩ := h₁
  obtain ⟨l₂, e₂, p₂⟩ := h₂
  exact ⟨l₁ ++ l₂, by rw [e₂, e₁, List.append_assoc], List.forall_mem_append.mpr ⟨p₁, p₂⟩⟩

theorem LogExt.mono {P Q : LogEntry → Prop} {a b : State} (h : LogExt P a b) (hpq : ∀ le, P le → Q le) :
    LogExt Q a b := by
  obtain ⟨l, e, p⟩ := h
  exact ⟨l, e, fun le hle => hpq le (p le hle)⟩

def OthersSame (k : Name) (s s' : State) : Prop :=
  ∀ k', k' ≠ k → s'.store k' = s.store k' ∧ s'.ver k' = s.ver k'

/-- everything `submitPass` can do -/
structure PassStep (old : Cert) (s s' : State) : Prop where
  env : SameEnv s s'
  others : OthersSame (old.names.headD 0) s s'
  log : LogExt (fun le => le.inst = 0 ∧ le.subj = old.names.headD 0) s s'
  cache : s'.cache = s.cache ∨ (s.od = true ∧ s'.cache = s.cache.remove old) ∨
    ∃ w, s'.store (old.names.headD 0) = .ok w ∧ s'.cache = s.cache.replace old ⟨w, true⟩
  jobs : s'.jobs = s.jobs ∨ ∃ j', s'.jobs = s.jobs ++ [j'] ∧ j'.jname = some (old.names.headD 0)

theorem PassStep.refl (old : Cert) (s : State) : PassStep old s s :=
  ⟨.refl s, fun _ _ => ⟨rfl, rfl⟩, .of_eq rfl, Or.inl rfl, Or.inl rfl⟩

theorem reloadOld_frame (t : State) (c : Cert) : PassStep c t (reloadOld t c) := by
  unfold reloadOld
  rcases reload_cases t c (c.names.headD 0) with e | ⟨w, hw, e⟩ <;> rw [e]
  · exact .refl c t
  · exact { PassStep.refl c t with cache := Or.inr (Or.inr ⟨w, hw, rfl⟩) }

theorem settle_frame (s s₀ : State) (old : Cert) (r : Res) :
    PassStep old s (settle s (passJob s₀ old) r) := by
  rcases settle_cases s (passJob s₀ old) r with ⟨_, e⟩ | ⟨_, e⟩ | ⟨j', e, hn', _⟩ <;> rw [e]
  · exact reloadOld_frame s old
  · show PassStep old s (if s.od then { s with cache := s.cache.remove old } else s)
    split
    · rename_i hod; exact { PassStep.refl old s with cache := Or.inr (Or.inl ⟨hod, rfl⟩) }
    · exact .refl old s
  · exact { PassStep.refl old s with jobs := Or.inr ⟨j', rfl, hn'⟩ }

theorem PassStep.after {old : Cert} {s s₁ s₂ : State} (henv : SameEnv s s₁)
    (hoth : OthersSame (old.names.headD 0) s s₁)
    (hlog : LogExt (fun le => le.inst = 0 ∧ le.subj = old.names.headD 0) s s₁)
    (hc : s₁.cache = s.cache) (hj : s₁.jobs = s.jobs) (h : PassStep old s₁ s₂) : PassStep old s s₂ := by
  refine ⟨henv.trans h.env, fun k' hk' => ?_, hlog.trans h.log, ?_, ?_⟩
  · exact ⟨(h.others k' hk').1.trans (hoth k' hk').1, (h.others k' hk').2.trans (hoth k' hk').2⟩
  · have := h.cache
    rw [hc, henv.od] at this; exact this
  · have := h.jobs
    rw [hj] at this; exact this

/-- what an attempt leaves alone, as `PassStep.after` takes it -/
theorem attempt_frame (s : State) (k : Name) (core : Core) :
    SameEnv s (attempt due s k core).2 ∧ OthersSame k s (attempt due s k core).2 ∧
      LogExt (fun le => le.inst = 0 ∧ le.subj = k) s (attempt due s k core).2 ∧
      (attempt due s k core).2.cache = s.cache ∧ (attempt due s k core).2.jobs = s.jobs := by
  rcases attempt_state due s k core with e | ⟨_, e | ⟨l, e⟩⟩ <;> rw [e]
  · exact ⟨.refl _, fun _ _ => ⟨rfl, rfl⟩, .of_eq rfl, rfl, rfl⟩
  · refine ⟨⟨rfl, rfl, rfl, rfl, rfl⟩, ?_, ⟨[_], rfl, by simp⟩, rfl, rfl⟩
    exact fun k' hk' => ⟨upd_other _ _ hk', upd_other _ _ hk'⟩
  · exact ⟨⟨rfl, rfl, rfl, rfl, rfl⟩, fun _ _ => ⟨rfl, rfl⟩, ⟨[_], rfl, by simp⟩, rfl, rfl⟩

theorem submitPass_frame (s : State) (old : Cert) : PassStep old s (submitPass due s old) := by
  rw [submitPass_eq]
  split
  · obtain ⟨a1, a2, a3, a4, a5⟩ :=
      attempt_frame due (takeLock s (old.names.headD 0)) (old.names.headD 0) (.renew false)
    exact .after a1 a2 a3 a4 a5 (settle_frame _ s old _)
  · exact .refl old s

theorem runJob_ext {s : State} (h : Inv s) (j : Job) (hg : Good s j) : Ext s (runJob due s j) := by
  have ha := attempt_ext due h j.subj j.kind.core
  exact ha.trans (settle_ext ha.inv j _ (hg.mono ha (attempt_frame due s j.subj j.kind.core).2.2.2.2))

theorem submit_ext {s : State} (h : Inv s) (j : Job) (hj : ∀ c, j.kind.cert? = some c → c ∈ s.issued) :
    Ext s (submit due s j) := by
  rcases submit_cases due s j with ⟨_, _, _, e⟩ | ⟨hfree, e⟩ <;> rw [e]
  · exact .refl h
  · exact (runJob_ext due (s := takeLock s j.subj) h.congr j ⟨hj, hfree⟩).lock

theorem submitPass_ext {t : State} (h : Inv t) (c : Cert) (hc : c ∈ t.issued) : Ext t (submitPass due t c) :=
  submit_ext due h (passJob t c) (fun c' hc' => by cases hc'; exact hc)

theorem exec_preserves (Q : State → Prop) (p : Plan)
    (hr : ∀ t, Q t → ∀ c, c ∈ p.reload → Q (reloadOld t c))
    (hn : ∀ t, Q t → ∀ c, c ∈ p.renew → Q (submitPass due t c))
    (hd : ∀ t, Q t → ∀ c, c ∈ p.del → Q (removeOld t c)) (s : State) (h : Q s) : Q (exec due s p) := by
  unfold exec
  exact List.foldlRecOn p.del removeOld
    (List.foldlRecOn p.renew (submitPass due) (List.foldlRecOn p.reload reloadOld h hr) hn) hd

theorem exec_ext {t : State} (h : Inv t) (p : Plan)
    (hp : ∀ c, c ∈ p.reload ∨ c ∈ p.renew ∨ c ∈ p.del → c ∈ t.issued) : Ext t (exec due t p) := by
  apply exec_preserves due (fun t' => Ext t t') p _ _ _ t (.refl h)
  · intro t' ht' c hc
    exact ht'.trans (reload_ext ht'.inv c _ (ht'.sub c (hp c (Or.inl hc))))
  · intro t' ht' c hc
    exact ht'.trans (submitPass_ext due ht'.inv c (ht'.sub c (hp c (Or.inr (Or.inl hc)))))
  · intro t' ht' c hc
    exact ht'.trans (removeOld_ext ht'.inv c (ht'.sub c (hp c (Or.inr (Or.inr hc)))))

theorem pass_ext {s : State} (h : Inv s) : Ext s (pass due s) := by
  apply exec_ext due h
  rintro c (hc | hc | hc)
  · exact scan_issued due h .reload hc
  · exact scan_issued due h .renew hc
  · exact scan_issued due h .del hc

/-- `takeAt` and `takeHeld` both take the first job that passes a test out of the table -/
theorem take_spec {p : Job → Prop} [DecidablePred p] {f : List Job → Option (Job × List Job)}
    (hnil : f [] = none)
    (hcons : ∀ j js, f (j :: js) = if p j then some (j, js) else (f js).map (fun q => (q.1, j :: q.2))) :
    ∀ {jobs : List Job} {j : Job} {rest : List Job}, f jobs = some (j, rest) →
      p j ∧ ∃ l₁ l₂, jobs = l₁ ++ j :: l₂ ∧ rest = l₁ ++ l₂ := by
  intro jobs
  induction jobs with
  | nil => intro j rest h; rw [hnil] at h; cases h
  | cons a as ih =>
    intro j rest h
    rw [hcons] at h
    split at h
    · rename_i hp
      cases h; exact ⟨hp, [], as, rfl, rfl⟩
    · obtain ⟨q, hq, e⟩ := Option.map_eq_some_iff.mp h
      cases e
      obtain ⟨hp, l₁, l₂, rfl, hrest⟩ := ih hq
      exact ⟨hp, a :: l₁, l₂, rfl, by rw [hrest]; rfl⟩

theorem takeAt_spec {t : Int} {jobs : List Job} {j : Job} {rest : List Job}
    (h : takeAt t jobs = some (j, rest)) :
    j.wakeAt = some t ∧ ∃ l₁ l₂, jobs = l₁ ++ j :: l₂ ∧ rest = l₁ ++ l₂ :=
  take_spec rfl (fun _ _ => rfl) h

theorem takeHeld_spec {k : Name} {jobs : List Job} {j : Job} {rest : List Job}
    (h : takeHeld k jobs = some (j, rest)) :
    (j.subj = k ∧ j.phase = .held) ∧ ∃ l₁ l₂, jobs = l₁ ++ j :: l₂ ∧ rest = l₁ ++ l₂ :=
  take_spec rfl (fun _ _ => rfl) h

/-- `s'` is `s` without job `j` (and with any change to fields `Inv` does not read): `j` may be put back -/
theorem inv_take {s s' : State} (h : Inv s) {l₁ l₂ : List Job} {j : Job} (hd : s.jobs = l₁ ++ j :: l₂)
    (hj : s'.jobs = l₁ ++ l₂) (hc : s'.cache = s.cache := by rfl) (hs : s'.store = s.store := by rfl)
    (hv : s'.ver = s.ver := by rfl) (hi : s'.issued = s.issued := by rfl) : Inv s' ∧ Good s' j := by
  have hsub : s'.jobs.Sublist s.jobs := by
    rw [hj, hd]; exact (List.sublist_cons_self j l₂).append_left l₁
  refine ⟨h.congr hc hs hv hi hsub, ?_, ?_⟩
  · rw [hi]; exact h.reg.jobs j (by rw [hd]; exact List.mem_append_right _ List.mem_cons_self)
  · intro n hn
    have := h.one n
    rw [hd, List.countP_append, List.countP_cons, if_pos (by simp [named, hn])] at this
    rw [hj, List.countP_append]; omega

theorem loadRes_spec {s : State} {k : Name} {f : Bool} {r : LoadRes} (h : loadRes s k f = r) :
    match (generalizing := false) r with
    | .ok => s.store k = .ok (storedCert s k)
    | .notexist => s.store k = .none
    | .othererr => True := by
  subst h
  fun_cases loadRes s k f
  next => trivial
  next h => exact h
  next => trivial
  next c h => unfold storedCert; rw [h]

theorem manageDecision_cached {am : Bool} {l : LoadRes} {r d : Bool} {a : ManageAct}
    (h : manageDecision am l r d = a)
    (ha : a = .cacheOnly ∨ a = .cacheThenRenew ∨ a = .cacheThenForce := by decide) : l = .ok := by
  subst h
  revert ha
  fun_cases manageDecision am l r d <;> simp [*]

/-- only three of `manage`'s decisions lead to code that can reach the issuer -/
theorem manage_log (s : State) (k : Name) (a f : Bool) {d : ManageAct}
    (hd : manageDecision (alreadyManaged s k) (loadRes s k f) (revokedNow s (storedCert s k))
      (due s.now (storedCert s k)) = d) :
    (manage due s k a f).1.log = s.log ∨ d = .obtainThenCache ∨ d = .cacheThenRenew ∨ d = .cacheThenForce := by
  subst hd
  fun_cases manage due s k a f
  -- the three guards, `.nothing`, `.error`, `.cacheOnly`
  next => exact Or.inl rfl
  next => exact Or.inl rfl
  next => exact Or.inl rfl
  next => exact Or.inl rfl
  next => exact Or.inl rfl
  next => exact Or.inl rfl
  -- the four leaves of `.obtainThenCache`, the three of `.cacheThenRenew`, the two of `.cacheThenForce`
  next => exact Or.inr (Or.inl ‹_›)
  next => exact Or.inr (Or.inl ‹_›)
  next => exact Or.inr (Or.inl ‹_›)
  next => exact Or.inr (Or.inl ‹_›)
  next => exact Or.inr (Or.inr (Or.inl ‹_›))
  next => exact Or.inr (Or.inr (Or.inl ‹_›))
  next => exact Or.inr (Or.inr (Or.inl ‹_›))
  next => exact Or.inr (Or.inr (Or.inr ‹_›))
  next => exact Or.inr (Or.inr (Or.inr ‹_›))

theorem manage_inv {s : State} (h : Inv s) (k : Name) (a f : Bool) : Inv (manage due s k a f).1 := by
  have hc : loadRes s k f = .ok → storedCert s k ∈ s.issued :=
    fun hl => h.reg.store k _ (loadRes_spec hl)
  have h1 : loadRes s k f = .ok → Inv { s with cache := s.cache.add ⟨storedCert s k, true⟩ } :=
    fun hl => h.cacheAdd _ true (hc hl)
  fun_cases manage due s k a f
  -- the three guards, `.nothing`, `.error`
  next => exact h
  next => exact h
  next => exact h
  next => exact h
  next => exact h
  -- `.cacheOnly`
  next => exact h1 (manageDecision_cached ‹_›)
  -- `.obtainThenCache`: asynchronous; synchronous and loaded, not loadable, not done
  next =>
    dsimp only
    refine (submit_ext due h _ ?_).inv
    intro c hc'; cases hc'
  next he =>
    obtain ⟨w, hw, rfl⟩ := loadEntry_eq_some.mp he
    have ha := attempt_lock_ext due h k .obtain
    exact ha.inv.cacheAdd w true (ha.inv.reg.store _ w hw)
  next => exact (attempt_lock_ext due h k .obtain).inv
  next => exact (attempt_lock_ext due h k .obtain).inv
  -- `.cacheThenRenew`: asynchronous; synchronous and done, not done
  next =>
    have hl := manageDecision_cached ‹_›
    dsimp only
    refine (submit_ext due (h1 hl) _ ?_).inv
    intro c hc'; cases hc'; exact hc hl
  next =>
    have hl := manageDecision_cached ‹_›
    have ha := attempt_lock_ext due (h1 hl) k (.renew false)
    exact (reload_ext ha.inv _ _ (ha.sub _ (hc hl))).inv
  next =>
    exact (attempt_lock_ext due (h1 (manageDecision_cached ‹_›)) k (.renew false)).inv
  -- `.cacheThenForce`: asynchronous; synchronous
  next =>
    have hl := manageDecision_cached ‹_›
    dsimp only
    refine (submit_ext due (h1 hl) _ ?_).inv
    intro c hc'; cases hc'; exact hc hl
  next =>
    have hl := manageDecision_cached ‹_›
    have ha := attempt_lock_ext due (h1 hl) ((storedCert s k).names.headD k) (.renew true)
    refine (settle_ext ha.inv _ _ ⟨?_, ?_⟩).inv
    · intro c hc'; cases hc'; exact ha.sub _ (hc hl)
    · intro n hn; cases hn

theorem advTo_inv (fuel : Nat) (s : State) (target : Int) (h : Inv s) : Inv (advTo due fuel s target) := by
  fun_induction advTo due fuel s target
  next => exact h.congr
  next => exact h.congr
  next fuel s target t hm hle j rest ht ih =>
    obtain ⟨_, l₁, l₂, hd, hr⟩ := takeAt_spec ht
    have := inv_take (s' := { s with now := t, jobs := rest }) h hd hr
    exact ih (runJob_ext due this.1 j this.2).inv
  next => exact h.congr
  next => exact h.congr

theorem other_inv {s : State} (h : Inv s) (k : Name) (o : Bool) : Inv (other due s k o).1 := by
  fun_cases other due s k o
  next => exact h
  next => exact h.congr
  next =>
    cases o
    · exact h.congr   -- renew: the lock is taken
    · exact h         -- obtain: returns before the lock
  next => exact inv_issue (s := takeLock s k) h.congr 1 k

theorem release_inv {s : State} (h : Inv s) (k : Name) (r : Mode) : Inv (release s k r).1 := by
  unfold release
  split
  · exact h
  · rename_i j rest ht
    obtain ⟨_, l₁, l₂, hd, hr⟩ := takeHeld_spec ht
    obtain ⟨h0, hg⟩ := inv_take (s' := { s with jobs := rest }) h hd hr
    have hfail : ∀ r, Inv (settle (logRes { s with jobs := rest } 0 k .fail) j r) :=
      fun r => (settle_ext (s := logRes { s with jobs := rest } 0 k .fail) h0.congr j r hg).inv
    cases r with
    | ok => exact (settle_ext (inv_issue h0 0 k) j .done
        ⟨fun c hc => List.mem_append_left _ (hg.1 c hc), hg.2⟩).inv
    | hard => exact hfail .hardErr
    | soft | hold => exact hfail .softErr

theorem removeManaged_inv {s : State} (h : Inv s) (k : Name) : Inv (removeManaged s k) := by
  have hrow : ∀ e ∈ s.cache.row k, e.cert ∈ s.issued := by
    intro e he
    obtain ⟨i, _, hf⟩ := List.mem_filterMap.mp he
    exact h.reg.cache e (List.mem_of_find?_eq_some hf)
  unfold removeManaged
  refine Ext.inv (s := s) ?_
  apply List.foldlRecOn (motive := fun t => Ext s t) _ (fun t (e : Entry) => removeOld t e.cert) (.refl h)
  intro t ht e he
  exact ht.trans (removeOld_ext ht.inv e.cert (ht.sub _ (hrow e (List.mem_filter.mp he).1)))

theorem revoke_inv {s : State} (h : Inv s) (k : Name) : Inv (revoke s k).1 := by
  fun_cases revoke s k
  next => exact h.congr
  next => exact h
  next => exact h

theorem corrupt_inv {s : State} (h : Inv s) (k : Name) : Inv (corrupt s k) := by
  fun_cases corrupt s k
  next => exact h
  next => exact h.storeSet k .corrupt (fun c hc => by cases hc)

theorem unmanaged_inv {s : State} (h : Inv s) (k : Name) (life : Int) : Inv (unmanaged s k life) :=
  (h.mint k _ rfl).cacheAdd _ false (List.mem_append_right _ (List.mem_singleton.mpr rfl))

theorem step_inv {s : State} (h : Inv s) (e : Ev) : Inv (step due s e).1 := by
  fun_cases step due s e
  next => exact advTo_inv due _ _ _ h
  next => exact (pass_ext due h).inv
  next => exact (pass_ext due h).inv
  next => exact manage_inv due h _ _ _
  next => exact h.congr
  next => exact release_inv h _ _
  next => exact other_inv due h _ _
  next => exact other_inv due h _ _
  next => exact h.storeSet _ .none (fun c hc => by cases hc)
  next => exact corrupt_inv h _
  next => exact removeManaged_inv h _
  next => exact revoke_inv h _
  next => exact h.congr
  next => exact unmanaged_inv h _ _

theorem run_inv (evs : List Ev) (s : State) (h : Inv s) : Inv (run due s evs) :=
  List.foldlRecOn evs _ h fun _ h e _ => step_inv due h e

def logOf (k : Name) (s : State) : List LogEntry := s.log.filter (fun le => le.subj == k)

theorem logOf_ext {k k' : Name} {s s' : State} (h : LogExt (fun le => le.inst = 0 ∧ le.subj = k') s s')
    (hk : k' ≠ k) : logOf k s' = logOf k s := by
  obtain ⟨l, hl, pl⟩ := h
  unfold logOf
  rw [hl, List.filter_append]
  have : l.filter (fun le => le.subj == k) = [] := by
    rw [List.filter_eq_nil_iff]
    intro le hle
    simp [(pl le hle).2, hk]
  rw [this, List.append_nil]

/-- nothing a job for subject `k` reads or writes has changed: the environment, and `k`'s bundle, CA counter,
issuer log and number of jobs -/
structure SameAt (k : Name) (s s' : State) : Prop where
  env : SameEnv s s'
  store : s'.store k = s.store k
  ver : s'.ver k = s.ver k
  log : logOf k s' = logOf k s
  jobs : s'.jobs.countP (named k) = s.jobs.countP (named k)

theorem SameAt.refl (k : Name) (s : State) : SameAt k s s := ⟨.refl s, rfl, rfl, rfl, rfl⟩

theorem SameAt.trans {k : Name} {a b c : State} (h₁ : SameAt k a b) (h₂ : SameAt k b c) : SameAt k a c :=
  ⟨h₁.env.trans h₂.env, h₂.store.trans h₁.store, h₂.ver.trans h₁.ver, h₂.log.trans h₁.log, h₂.jobs.trans h₁.jobs⟩

theorem SameAt.of_cache (k : Name) (s : State) (c : Cache) : SameAt k s { s with cache := c } :=
  ⟨⟨rfl, rfl, rfl, rfl, rfl⟩, rfl, rfl, rfl, rfl⟩

theorem reloadOld_sameAt (k : Name) (t : State) (c : Cert) : SameAt k t (reloadOld t c) := by
  unfold reloadOld
  rw [reload_eq]; exact .of_cache k t _

theorem PassStep.sameAt {c : Cert} {t t' : State} (h : PassStep c t t') {k : Name}
    (hk : c.names.headD 0 ≠ k) : SameAt k t t' := by
  refine ⟨h.env, (h.others k hk.symm).1, (h.others k hk.symm).2, logOf_ext h.log hk, ?_⟩
  rcases h.jobs with hj | ⟨j', hj, hn⟩ <;> rw [hj]
  have : named k j' = false := by
    simp only [named, hn, beq_eq_false_iff_ne, ne_eq, Option.some.injEq]
    exact hk
  simp [List.countP_append, this]

theorem submitPass_sameAt (t : State) (c : Cert) (k : Name)
    (h : c.names.headD 0 ≠ k ∨ 0 < t.jobs.countP (named k)) : SameAt k t (submitPass due t c) := by
  by_cases hk : c.names.headD 0 = k
  · rw [submitPass_eq, hk, if_neg (Nat.ne_of_gt (h.resolve_left (fun hne => hne hk)))]
    exact .refl k t
  · exact (submitPass_frame due t c).sameAt hk

theorem exec_sameAt (t : State) (p : Plan) (k : Name)
    (h : (∀ c ∈ p.renew, c.names.headD 0 ≠ k) ∨ 0 < t.jobs.countP (named k)) :
    SameAt k t (exec due t p) := by
  apply exec_preserves due (fun t' => SameAt k t t') p _ _ _ t (.refl k t)
  · intro t' ht' c _; exact ht'.trans (reloadOld_sameAt k t' c)
  · intro t' ht' c hc
    exact ht'.trans (submitPass_sameAt due t' c k (h.imp (fun h => h c hc) (fun h => by rw [ht'.jobs]; exact h)))
  · intro t' ht' c _; exact ht'.trans (.of_cache k t' _)

def passN : Nat → State → State
  | 0, s => s
  | n + 1, s => passN n (pass due s)

theorem passN_overlap (n : Nat) : ∀ (s : State) (k : Name), 0 < s.jobs.countP (named k) →
    SameAt k s (passN due n s) := by
  induction n with
  | zero => intro s k _; exact .refl k s
  | succ n ih =>
    intro s k hjob
    have h1 : SameAt k s (pass due s) := exec_sameAt due s _ k (Or.inr hjob)
    exact h1.trans (ih (pass due s) k (by rw [h1.jobs]; exact hjob))

theorem pass_log (s : State) :
    LogExt (fun le => le.inst = 0 ∧ ∃ e ∈ s.cache.entries, classify due s e = .renew ∧
      le.subj = e.cert.names.headD 0) s (pass due s) := by
  unfold pass
  apply exec_preserves due (fun t => LogExt _ s t)
  · intro t hq c _
    exact hq.trans (.of_eq (by unfold reloadOld; rw [reload_eq]))
  · intro t hq c hc
    obtain ⟨e, he, hce, hcl⟩ := mem_scan_queue due .renew hc
    exact hq.trans ((submitPass_frame due t c).log.mono
      (fun le hle => ⟨hle.1, e, he, hcl, by rw [hce]; exact hle.2⟩))
  · intro t hq c _
    exact hq
  · exact .of_eq rfl

theorem PassStep.mem {c : Cert} {t t' : State} (h : PassStep c t t') {e : Entry} (hx : c.id ≠ e.cert.id)
    (he : e ∈ t.cache.entries) : e ∈ t'.cache.entries := by
  have hr : e ∈ (t.cache.remove c).entries := (Cache.mem_remove_entries ..).mpr ⟨he, hx.symm⟩
  rcases h.cache with hc | ⟨_, hc⟩ | ⟨w, _, hc⟩ <;> rw [hc]
  · exact he
  · exact hr
  · exact (Cache.mem_add_entries ..).mpr (Or.inl hr)

/-- `v` is indexed under each of its names and hash `x` is gone: what `C05_adopt` and `C05_renew_once` establish -/
structure Adopted (v : Cert) (x : CertId) (c : Cache) : Prop where
  indexed : ∀ n ∈ v.names, v.id ∈ c.index n
  absent : Cache.Absent x c

theorem adopted_remove {v : Cert} {x : CertId} {c : Cache} (h : Adopted v x c) (old : Cert)
    (hne : v.id ≠ old.id ∨ old.names = []) : Adopted v x (c.remove old) := by
  refine ⟨fun n hn => (Cache.mem_remove_index ..).mpr ⟨h.indexed n hn, ?_⟩, Cache.absent_remove h.absent old⟩
  rintro ⟨hn', hid⟩
  rcases hne with hne | hne
  · exact hne hid
  · rw [hne] at hn'; cases hn'

theorem adopted_add {v : Cert} {x : CertId} {c : Cache} (h : Adopted v x c) (e : Entry) (hne : e.cert.id ≠ x) :
    Adopted v x (c.add e) :=
  ⟨fun n hn => (Cache.mem_add_index ..).mpr (Or.inl (h.indexed n hn)), Cache.absent_add h.absent e hne⟩

/-- after `x` was replaced by `v`: whichever entry has `v`'s hash now is `v` (`Reg.fn`), so the rows follow from `WF` -/
theorem adopted_replace {u : State} (h : Inv u) {c : Cache} {x v : Cert} (hc : u.cache = c.replace x ⟨v, true⟩)
    (hv : v ∈ u.issued) (hne : v.id ≠ x.id) : Adopted v x.id u.cache := by
  constructor
  · intro n hn
    obtain ⟨e, he, hi⟩ := (Cache.has_iff ..).mp (Cache.has_add_self (c.remove x) ⟨v, true⟩)
    rw [← Cache.replace, ← hc] at he
    exact (h.wf.idx n _).mpr ⟨e, he, hi, by rw [h.cert_of_id hv e he hi]; exact hn⟩
  · rw [hc]; exact Cache.absent_add (Cache.absent_remove_self c x) _ hne

theorem PassStep.adopted {c : Cert} {t t' : State} (h : PassStep c t t') {v : Cert} {x : CertId}
    (ha : Adopted v x t.cache) (hvc : v.id ≠ c.id)
    (hw : ∀ w, t'.store (c.names.headD 0) = .ok w → w.id ≠ x) : Adopted v x t'.cache := by
  rcases h.cache with hc | ⟨_, hc⟩ | ⟨w, hst, hc⟩ <;> rw [hc]
  · exact ha
  · exact adopted_remove ha c (Or.inl hvc)
  · exact adopted_add (adopted_remove ha c (Or.inl hvc)) _ (hw w hst)

theorem Inv.stored_ne {t : State} (h : Inv t) {x : CertId} {v : Cert} (hv : t.store x.name = .ok v)
    (hvx : v.id ≠ x) {k : Name} {w : Cert} (hw : t.store k = .ok w) : w.id ≠ x := by
  intro hid
  have hk : k = x.name := by rw [← hid]; exact (h.reg.own k w hw).symm
  rw [hk, hv] at hw
  cases hw; exact hvx hid

theorem exec_mem (t : State) (p : Plan) {e : Entry}
    (hx : ∀ c, c ∈ p.reload ∨ c ∈ p.renew ∨ c ∈ p.del → c.id ≠ e.cert.id) (he : e ∈ t.cache.entries) :
    e ∈ (exec due t p).cache.entries := by
  apply exec_preserves due (fun t' => e ∈ t'.cache.entries) p _ _ _ t he
  · intro t' ht' c hc; exact (reloadOld_frame t' c).mem (hx c (Or.inl hc)) ht'
  · intro t' ht' c hc; exact (submitPass_frame due t' c).mem (hx c (Or.inr (Or.inl hc))) ht'
  · intro t' ht' c hc; exact (Cache.mem_remove_entries ..).mpr ⟨ht', (hx c (Or.inr (Or.inr hc))).symm⟩

/-- the rest of a pass after the action that stored `v` under `x`'s subject and adopted it: `v` is none
of the queued certificates and the renewals left are for other subjects -/
theorem rest_adopted {s u : State} (h : Inv s) (hu : Ext s u) {v : Cert} {x : CertId}
    (hst : u.store x.name = .ok v) (hvx : v.id ≠ x) (ha : Adopted v x u.cache)
    (hv : ∀ c, c ∈ (scan due s).reload ∨ c ∈ (scan due s).renew → v.id ≠ c.id)
    {l₁ l₂ : List Cert} (h₁ : ∀ c ∈ l₁, c ∈ (scan due s).reload)
    (h₂ : ∀ c ∈ l₂, c ∈ (scan due s).renew ∧ c.names.headD 0 ≠ x.name) :
    Ext s (exec due u ⟨l₁, l₂, (scan due s).del⟩) ∧ SameAt x.name u (exec due u ⟨l₁, l₂, (scan due s).del⟩) ∧
      Adopted v x (exec due u ⟨l₁, l₂, (scan due s).del⟩).cache := by
  have step {t t' : State} {c : Cert} (q : Ext s t ∧ SameAt x.name u t ∧ Adopted v x t.cache)
      (hstep : PassStep c t t') (he' : Ext t t') (hs' : SameAt x.name t t') (hvc : v.id ≠ c.id) :
      Ext s t' ∧ SameAt x.name u t' ∧ Adopted v x t'.cache :=
    ⟨q.1.trans he', q.2.1.trans hs', hstep.adopted q.2.2 hvc fun _ =>
      he'.inv.stored_ne ((q.2.1.trans hs').store.trans hst) hvx⟩
  apply exec_preserves due (fun t => Ext s t ∧ SameAt x.name u t ∧ Adopted v x t.cache) _ _ _ _ u
    ⟨hu, .refl _ u, ha⟩
  · intro t ht c hc
    exact step ht (reloadOld_frame t c) (reload_ext ht.1.inv c _ (ht.1.sub c (scan_issued due h .reload (h₁ c hc))))
      (reloadOld_sameAt _ t c) (hv c (Or.inl (h₁ c hc)))
  · intro t ht c hc
    exact step ht (submitPass_frame due t c)
      (submitPass_ext due ht.1.inv c (ht.1.sub c (scan_issued due h .renew (h₂ c hc).1)))
      ((submitPass_frame due t c).sameAt (h₂ c hc).2) (hv c (Or.inr (h₂ c hc).1))
  · intro t ⟨he, hs, ha'⟩ c hc
    obtain ⟨e', he', rfl, hcl'⟩ := mem_scan_queue due .del hc
    exact ⟨he.trans (removeOld_ext he.inv _ (he.sub _ (h.reg.cache e' he'))), hs.trans (.of_cache _ t _),
      adopted_remove ha' _ (Or.inr (classify_spec due hcl').2)⟩

theorem distinct_split {l : List Cert} (h : DistinctIds l) {c₀ : Cert} (h0 : c₀ ∈ l) :
    ∃ l₁ l₂, l = l₁ ++ c₀ :: l₂ ∧ (∀ a ∈ l₁, a.id ≠ c₀.id) ∧ (∀ b ∈ l₂, b.id ≠ c₀.id) := by
  obtain ⟨l₁, l₂, rfl⟩ := List.append_of_mem h0
  obtain ⟨_, h2, h3⟩ := List.pairwise_append.mp h
  exact ⟨l₁, l₂, rfl, fun a ha => h3 a ha c₀ List.mem_cons_self,
    fun b hb hid => (List.pairwise_cons.mp h2).1 b hb hid.symm⟩

/-- the pass split at the job of `e`, whose first name `k` no other queued certificate shares: up to its
submission nothing about `k` or `e` has changed, the rest of the renew queue is for other subjects -/
theorem pass_split {s : State} (h : Inv s) (e : Entry) (he : e ∈ s.cache.entries) (k : Name)
    (hcl : classify due s e = .renew)
    (honly : ∀ e' ∈ s.cache.entries, classify due s e' = .renew → e'.cert.names.headD 0 = k → e' = e) :
    ∃ (t : State) (l₂ : List Cert),
      pass due s = exec due (submitPass due t e.cert) ⟨[], l₂, (scan due s).del⟩ ∧
      (∀ c ∈ l₂, c ∈ (scan due s).renew ∧ c.id ≠ e.cert.id ∧ c.names.headD 0 ≠ k) ∧
      Ext s t ∧ SameAt k s t ∧ e ∈ t.cache.entries := by
  obtain ⟨l₁, l₂, hsplit, hl₁, hl₂⟩ :=
    distinct_split (scan_renew_distinct due s) (scan_renew_mem due h.wf he hcl)
  have hl : ∀ c, c ∈ l₁ ∨ c ∈ l₂ → c ∈ (scan due s).renew ∧ c.id ≠ e.cert.id ∧ c.names.headD 0 ≠ k := by
    intro c hc
    have hcr : c ∈ (scan due s).renew := by
      rw [hsplit, List.mem_append, List.mem_cons]
      exact hc.imp_right Or.inr
    have hne : c.id ≠ e.cert.id := hc.elim (hl₁ c) (hl₂ c)
    obtain ⟨e', he', rfl, hcl'⟩ := mem_scan_queue due .renew hcr
    exact ⟨hcr, hne, fun hk => hne (by rw [honly e' he' hcl' hk])⟩
  refine ⟨exec due s ⟨(scan due s).reload, l₁, []⟩, l₂, ?_, fun c hc => hl c (Or.inr hc), ?_,
    exec_sameAt due s _ k (Or.inl (fun c hc => (hl c (Or.inl hc)).2.2)), ?_⟩
  · unfold pass exec
    rw [hsplit, List.foldl_append, List.foldl_cons]; rfl
  · apply exec_ext due h
    rintro c (hc | hc | hc)
    · exact scan_issued due h .reload hc
    · exact scan_issued due h .renew (hl c (Or.inl hc)).1
    · cases hc
  · refine exec_mem due s _ ?_ he
    rintro c (hc | hc | hc)
    · intro hid; cases hcl.symm.trans (scan_queue_of_id due h.wf he .reload hc hid).2
    · exact (hl c (Or.inl hc)).2.1
    · cases hc

/-- the pass split at the reload of `e`: up to it nothing about `k` has changed -/
theorem pass_split_reload {s : State} (h : Inv s) (e : Entry) (he : e ∈ s.cache.entries) (k : Name)
    (hcl : classify due s e = .reload) :
    ∃ (t : State) (l₂ : List Cert),
      pass due s = exec due (reloadOld t e.cert) ⟨l₂, (scan due s).renew, (scan due s).del⟩ ∧
      (∀ c ∈ l₂, c ∈ (scan due s).reload) ∧ Ext s t ∧ SameAt k s t := by
  obtain ⟨l₁, l₂, hsplit⟩ := List.append_of_mem (scan_reload_mem due he hcl)
  have hl : ∀ c, c ∈ l₁ ∨ c ∈ l₂ → c ∈ (scan due s).reload := by
    intro c hc; rw [hsplit, List.mem_append, List.mem_cons]
    exact hc.imp_right Or.inr
  refine ⟨exec due s ⟨l₁, [], []⟩, l₂, ?_, fun c hc => hl c (Or.inr hc), ?_,
    exec_sameAt due s _ k (Or.inl (List.forall_mem_nil _))⟩
  · unfold pass exec
    rw [hsplit, List.foldl_append, List.foldl_cons]; rfl
  · apply exec_ext due h
    rintro c (hc | hc | hc)
    · exact scan_issued due h .reload (hl c (Or.inl hc))
    · cases hc
    · cases hc

theorem submitPass_renews (t : State) (c : Cert) (k : Name) (hk : c.names.headD 0 = k)
    (hjobs : t.jobs.countP (named k) = 0) (hst : t.store k ≠ .none)
    (hdue : storedDue due t.now (t.store k) = true) (hmode : t.mode k = .ok) :
    (submitPass due t c).store k = .ok (newCert t k) ∧
      (submitPass due t c).log = t.log ++ [⟨0, k, .ok (t.ver k + 1)⟩] ∧
      (submitPass due t c).cache = t.cache.replace c ⟨newCert t k, true⟩ ∧
      (submitPass due t c).jobs = t.jobs := by
  -- the job is not dropped; its attempt issues; `.done` reloads what was just stored
  have hatt : attempt due (takeLock t k) k (.renew false) = (.done, issue (takeLock t k) 0 k) :=
    attempt_issues due ((needIssue_true_iff due _ k _).mpr (Or.inr ⟨false, rfl, hst, Or.inr hdue⟩)) hmode
  have hstore : (issue (takeLock t k) 0 k).store k = .ok (newCert t k) := upd_same _ _ _
  rw [submitPass_eq, hk, if_pos hjobs]
  unfold runJob
  simp only [passJob, hk, JobKind.core, hatt, settle, finishOk]
  rw [reload_ok hstore]
  exact ⟨hstore, rfl, rfl, rfl⟩

theorem settle_fail_cache (s : State) (j : Job) (r : Res) (hr : r ≠ .done)
    (hod : ∀ old, j.kind = .pass old → s.od = false) (hforce : ∀ c, j.kind ≠ .mforce c) :
    (settle s j r).cache = s.cache := by
  rcases settle_cases s j r with ⟨hd, _⟩ | ⟨_, e⟩ | ⟨j', e, _, _⟩
  · exact absurd hd hr
  · rw [e]
    fun_cases finishFail s j
    next old hk hod' => rw [hod old hk] at hod'; cases hod'
    next => rfl
    next c hk => exact absurd hk (hforce c)
    next => rfl
  · rw [e]

theorem submitPass_fails (t : State) (c : Cert) (k : Name) (hk : c.names.headD 0 = k)
    (hod : t.od = false) (hmode : t.mode k ≠ .ok) (hdue : storedDue due t.now (t.store k) = true) :
    (submitPass due t c).cache = t.cache := by
  rw [submitPass_eq, hk]
  split
  · unfold runJob
    simp only [passJob, hk, JobKind.core]
    have hne : (attempt due (takeLock t k) k (.renew false)).1 ≠ .done := by
      intro hd
      rcases attempt_done due hd with h | h
      · rcases (needIssue_false_iff due _ k _).mp h with ⟨hc, _⟩ | ⟨_, _, hsd⟩
        · cases hc
        · cases hdue.symm.trans hsd
      · exact hmode h
    rw [settle_fail_cache _ _ _ hne]
    · exact (attempt_frame due (takeLock t k) k (.renew false)).2.2.2.1
    · intro old _
      exact ((attempt_frame due (takeLock t k) k (.renew false)).1.od).trans hod
    · intro c' hc'; cases hc'
  · rfl

theorem selectLoop_mem (now : Int) (l : List Entry) (b : Entry) :
    selectLoop now l b = b ∨ selectLoop now l b ∈ l := by
  fun_induction selectLoop now l b
  next => exact Or.inl rfl
  next => exact Or.inr List.mem_cons_self
  next a l _ _ ih =>
    rcases ih with h | h
    · exact Or.inr (by rw [h]; exact List.mem_cons_self)
    · exact Or.inr (List.mem_cons_of_mem _ h)

theorem select_cases (now : Int) (l : List Entry) :
    (select now l = none ∧ l = []) ∨ ∃ x ∈ l, select now l = some x := by
  fun_cases select now l
  next => exact Or.inl ⟨rfl, rfl⟩
  next e => exact Or.inr ⟨e, List.mem_cons_self, rfl⟩
  next e rest _ =>
    refine Or.inr ⟨_, ?_, rfl⟩
    rcases selectLoop_mem now (e :: rest) e with h | h
    · rw [h]; exact List.mem_cons_self
    · exact h

end CM.Maintain
