import CM.Model.Challenge
/-! Helper lemmas for C15: what the answer functions, `step` and `apply` do; the inductive invariant
of the present / clean-up system; what `lookup` returns in a state satisfying it. -/
namespace CM.Challenge

/-- sanitised key of a pending challenge. The proofs pass between `skey E a` and
`E.safe (challengeKey a.2.2)` without saying so: the two agree by `rfl`. -/
def skey (E : Env) (a : Nat × Str × Chal) : Str := E.safe (challengeKey a.2.2)

structure Inv (E : Env) (S : State) : Prop where
  /-- a memory entry sits under its challenge's key and belongs to a challenge pending on that node -/
  mem_ok : ∀ n k e, S.mem n k = some e → k = challengeKey e.chal ∧ e.hasData = setsData e.chal ∧
            ∃ p, (n, p, e.chal) ∈ S.active
  /-- a token file sits under its challenge's sanitised key and belongs to a pending challenge -/
  store_ok : ∀ p f c, S.store p f = some c → f = E.safe (challengeKey c) ∧ ∃ n, (n, p, c) ∈ S.active
  /-- a pending challenge is in its node's memory and in storage under its prefix -/
  act_ok : ∀ a ∈ S.active, S.mem a.1 (challengeKey a.2.2) = some ⟨a.2.2, setsData a.2.2⟩ ∧
            S.store a.2.1 (skey E a) = some a.2.2
  /-- pending challenges have pairwise different sanitised keys -/
  distinct : S.active.Pairwise (fun a b => skey E a ≠ skey E b)

theorem eqFold_refl {E : Env} {a : Str} : eqFold E a a = true := by simp [eqFold]

theorem solves_iff {E : Env} {r : HttpReq} {c : Chal} :
    solves E r c = true ↔
      r.path = resourcePath c ∧ eqFold E r.host c.ident = true ∧ r.method = GET := by
  simp only [solves, Bool.and_eq_true, beq_iff_eq, and_assoc]

theorem ite_eq_iff {α : Type} {p : Prop} [Decidable p] {a b x : α} :
    (if p then a else b) = x ↔ p ∧ a = x ∨ ¬p ∧ b = x := by
  split <;> simp [*]

theorem httpAnswer_eq_serve {E : Env} {S : State} {n : Nat} {ps : List Str} {disabled : Bool}
    {r : HttpReq} {body : Str} :
    httpAnswer E S n ps disabled r = .serve body ↔
      disabled = false ∧ r.method = GET ∧ basePath.isPrefixOf r.path = true ∧
      ∃ e, lookup E S n ps r.host = some e ∧ solves E r e.chal = true ∧ e.chal.keyAuth = body := by
  unfold httpAnswer
  cases lookup E S n ps r.host <;> simp [ite_eq_iff]

theorem alpnAnswer_eq_cert {E : Env} {S : State} {n : Nat} {ps : List Str} {h : Hello}
    {c : Chal} {cached : Bool} :
    alpnAnswer E S n ps h = .cert c cached ↔
      h.sni ≠ [] ∧ h.protos = [acmeTLS1] ∧
      ∃ e, lookup E S n ps h.sni = some e ∧ e.hasData = cached ∧
        (cached = false → e.chal.idnaOK = true) ∧ e.chal = c := by
  unfold alpnAnswer
  cases lookup E S n ps h.sni with
  | none => simp [ite_eq_iff]
  | some e => cases cached <;> simp [ite_eq_iff, and_assoc]

theorem lookup_eq_some {E : Env} {S : State} {n : Nat} {ps : List Str} {name : Str} {e : Entry} :
    lookup E S n ps name = some e ↔
      S.mem n name = some e ∨
      S.mem n name = none ∧ ∃ c, ps.findSome? (fun p => S.store p (E.safe name)) = some c ∧
        eqFold E (challengeKey c) name = true ∧ ⟨c, false⟩ = e := by
  unfold lookup
  cases S.mem n name with
  | some e' => simp
  | none =>
    cases ps.findSome? (fun p => S.store p (E.safe name)) <;> simp

theorem mem_searchPrefixes {is : List Issuer} {p : Str} :
    p ∈ searchPrefixes is ↔ ∃ i ∈ is, p = i.ca ∨ i.test = some p := by
  unfold searchPrefixes
  rw [List.mem_flatMap]
  refine exists_congr fun i => and_congr_right fun _ => ?_
  cases i.test <;> simp [eq_comm]

theorem fresh_iff {E : Env} {S : State} {c : Chal} :
    fresh E S c = true ↔ ∀ a ∈ S.active, skey E a ≠ E.safe (challengeKey c) := by
  simp only [fresh, skey, List.all_eq_true, bne_iff_ne]

theorem step_present {E : Env} {S S' : State} {n : Nat} {p : Str} {c : Chal} :
    step E S (.present n p c) = some S' ↔ fresh E S c = true ∧ apply E S (.present n p c) = S' := by
  simp only [step, Option.ite_none_right_eq_some, Option.some.injEq]

theorem step_cleanUp {E : Env} {S S' : State} {n : Nat} {p : Str} {c : Chal} :
    step E S (.cleanUp n p c) = some S' ↔ (n, p, c) ∈ S.active ∧ apply E S (.cleanUp n p c) = S' := by
  simp only [step, Option.ite_none_right_eq_some, Option.some.injEq]

/-- a point update inside a point update, as `updN _ _ (upd _ _ _)` and `updS _ _ (upd _ _ _)` unfold
(the model's `upd`, `updS`, `updN` are one function at three types) -/
theorem upd_upd_apply {ι κ β : Type} [DecidableEq ι] [DecidableEq κ] {m : ι → κ → β} {i : ι} {k : κ}
    {v : β} {i' : ι} {k' : κ} :
    (if i' = i then fun y => if y = k then v else m i y else m i') k' =
      if i' = i ∧ k' = k then v else m i' k' := by
  by_cases hi : i' = i <;> simp [hi]

theorem mem_present (E : Env) (S : State) (n : Nat) (p : Str) (c : Chal) (n' : Nat) (k : Str) :
    (apply E S (.present n p c)).mem n' k =
      if n' = n ∧ k = challengeKey c then some ⟨c, setsData c⟩ else S.mem n' k :=
  upd_upd_apply

theorem store_present (E : Env) (S : State) (n : Nat) (p : Str) (c : Chal) (p' f : Str) :
    (apply E S (.present n p c)).store p' f =
      if p' = p ∧ f = E.safe (challengeKey c) then some c else S.store p' f :=
  upd_upd_apply

theorem mem_cleanUp (E : Env) (S : State) (n : Nat) (p : Str) (c : Chal) (n' : Nat) (k : Str) :
    (apply E S (.cleanUp n p c)).mem n' k =
      if n' = n ∧ k = challengeKey c then none else S.mem n' k :=
  upd_upd_apply

theorem store_cleanUp (E : Env) (S : State) (n : Nat) (p : Str) (c : Chal) (p' f : Str) :
    (apply E S (.cleanUp n p c)).store p' f =
      if p' = p ∧ f = E.safe (challengeKey c) then none else S.store p' f :=
  upd_upd_apply

theorem Inv.unique {E : Env} {S : State} (hI : Inv E S) {a b : Nat × Str × Chal}
    (ha : a ∈ S.active) (hb : b ∈ S.active) (hk : skey E a = skey E b) : a = b :=
  -- `skey` is injective on the members of a list with pairwise different `skey`s: trivially on the
  -- diagonal, and off it, in either order, `distinct` refutes `hk`
  List.Pairwise.forall_of_forall_of_flip (R := fun a b => skey E a = skey E b → a = b)
    (fun _ _ _ => rfl) (hI.distinct.imp fun h e => absurd e h)
    (hI.distinct.imp fun h e => absurd e.symm h) ha hb hk

theorem nodup_of_distinct {E : Env} {l : List (Nat × Str × Chal)}
    (hd : l.Pairwise (fun a b => skey E a ≠ skey E b)) : l.Nodup :=
  hd.imp (fun h e => h (by rw [e]))

theorem inv_empty (E : Env) : Inv E State.empty where
  mem_ok _ _ _ h := by cases h
  store_ok _ _ _ h := by cases h
  act_ok _ h := by cases h
  distinct := .nil

theorem inv_present {E : Env} {S : State} (hI : Inv E S) (n : Nat) (p : Str) {c : Chal}
    (hf : ∀ a ∈ S.active, skey E a ≠ E.safe (challengeKey c)) :
    Inv E (apply E S (.present n p c)) where
  mem_ok n' k e h := by
    rw [mem_present] at h
    split at h
    · rename_i hc
      cases h
      exact ⟨hc.2, rfl, p, hc.1 ▸ List.mem_cons_self⟩
    · obtain ⟨h1, h2, q, h3⟩ := hI.mem_ok _ _ _ h
      exact ⟨h1, h2, q, List.mem_cons_of_mem _ h3⟩
  store_ok p' f c' h := by
    rw [store_present] at h
    split at h
    · rename_i hc
      cases h
      exact ⟨hc.2, n, hc.1 ▸ List.mem_cons_self⟩
    · obtain ⟨h1, m, h3⟩ := hI.store_ok _ _ _ h
      exact ⟨h1, m, List.mem_cons_of_mem _ h3⟩
  act_ok a ha := by
    rw [mem_present, store_present]
    rcases List.mem_cons.mp ha with rfl | ha
    · exact ⟨if_pos ⟨rfl, rfl⟩, if_pos ⟨rfl, rfl⟩⟩
    · have hne := hf a ha
      rw [if_neg fun x => hne (congrArg E.safe x.2), if_neg fun x => hne x.2]
      exact hI.act_ok a ha
  distinct := List.pairwise_cons.mpr ⟨fun a ha e => hf a ha e.symm, hI.distinct⟩

theorem inv_cleanUp {E : Env} {S : State} (hI : Inv E S) {n : Nat} {p : Str} {c : Chal}
    (hm : (n, p, c) ∈ S.active) : Inv E (apply E S (.cleanUp n p c)) where
  mem_ok n' k e h := by
    rw [mem_cleanUp, Option.ite_none_left_eq_some] at h
    obtain ⟨h1, h2, q, h3⟩ := hI.mem_ok _ _ _ h.2
    refine ⟨h1, h2, q, (List.mem_erase_of_ne fun x => h.1 ?_).mpr h3⟩
    cases x
    exact ⟨rfl, h1⟩
  store_ok p' f c' h := by
    rw [store_cleanUp, Option.ite_none_left_eq_some] at h
    obtain ⟨h1, m, h3⟩ := hI.store_ok _ _ _ h.2
    refine ⟨h1, m, (List.mem_erase_of_ne fun x => h.1 ?_).mpr h3⟩
    cases x
    exact ⟨rfl, h1⟩
  act_ok a ha := by
    obtain ⟨hne, ha⟩ := (nodup_of_distinct hI.distinct).mem_erase_iff.mp ha
    have hsk : skey E a ≠ E.safe (challengeKey c) :=
      fun e => hne (hI.unique ha hm e)
    rw [mem_cleanUp, store_cleanUp, if_neg fun x => hsk (congrArg E.safe x.2), if_neg fun x => hsk x.2]
    exact hI.act_ok a ha
  distinct := hI.distinct.sublist List.erase_sublist

theorem inv_step (E : Env) (S S' : State) (e : Ev) (hI : Inv E S) (hs : step E S e = some S') :
    Inv E S' := by
  cases e with
  | present n p c =>
    obtain ⟨hf, rfl⟩ := step_present.mp hs
    exact inv_present hI n p (fresh_iff.mp hf)
  | cleanUp n p c =>
    obtain ⟨hm, rfl⟩ := step_cleanUp.mp hs
    exact inv_cleanUp hI hm

theorem inv_run (E : Env) (es : List Ev) (S S' : State) (hI : Inv E S) (h : run E S es = some S') :
    Inv E S' := by
  fun_induction run E S es with
  | case1 S => cases h; exact hI
  | case2 S e es S1 hs ih => exact ih (inv_step E S S1 e hI hs) h
  | case3 => cases h

theorem inv_reachable {E : Env} {S : State} (h : Reachable E S) : Inv E S := by
  obtain ⟨es, h⟩ := h
  exact inv_run E es _ _ (inv_empty E) h

/-- the challenge is pending and visible to node `n` searching the prefixes `ps` -/
def PendingFor (S : State) (n : Nat) (ps : List Str) (c : Chal) : Prop :=
  ∃ n0 p0, (n0, p0, c) ∈ S.active ∧ (n0 = n ∨ p0 ∈ ps)

theorem lookup_sound {E : Env} {S : State} (hI : Inv E S) {n : Nat} {ps : List Str} {name : Str}
    {e : Entry} (h : lookup E S n ps name = some e) :
    eqFold E (challengeKey e.chal) name = true ∧ PendingFor S n ps e.chal := by
  rcases lookup_eq_some.mp h with hm | ⟨_, c, hf, hq, rfl⟩
  · obtain ⟨h1, _, p, h3⟩ := hI.mem_ok _ _ _ hm
    exact ⟨h1 ▸ eqFold_refl, n, p, h3, .inl rfl⟩
  · obtain ⟨p, hp, hst⟩ := List.exists_of_findSome?_eq_some hf
    obtain ⟨_, m, h3⟩ := hI.store_ok _ _ _ hst
    exact ⟨hq, m, p, h3, .inr hp⟩

theorem lookup_complete {E : Env} {S : State} (hI : Inv E S) {n : Nat} {ps : List Str} {c : Chal}
    (hp : PendingFor S n ps c) : ∃ d, lookup E S n ps (challengeKey c) = some ⟨c, d⟩ := by
  obtain ⟨n0, p0, ha, hv⟩ := hp
  obtain ⟨hmem, hst⟩ : S.mem n0 (challengeKey c) = some ⟨c, setsData c⟩ ∧
      S.store p0 (E.safe (challengeKey c)) = some c := hI.act_ok _ ha
  cases hm : S.mem n (challengeKey c) with
  | some e =>
    obtain ⟨h1, _, p, h3⟩ := hI.mem_ok _ _ _ hm
    cases hI.unique h3 ha (congrArg E.safe h1.symm)
    exact ⟨e.hasData, lookup_eq_some.mpr (.inl hm)⟩
  | none =>
    have hp : p0 ∈ ps := hv.resolve_left fun e => by rw [e, hm] at hmem; cases hmem
    cases hf : ps.findSome? (fun p => S.store p (E.safe (challengeKey c))) with
    | none => rw [List.findSome?_eq_none_iff.mp hf p0 hp] at hst; cases hst
    | some c' =>
      obtain ⟨p, _, hst'⟩ := List.exists_of_findSome?_eq_some hf
      obtain ⟨h1, m, h3⟩ := hI.store_ok _ _ _ hst'
      cases hI.unique h3 ha h1.symm
      exact ⟨false, lookup_eq_some.mpr (.inr ⟨hm, _, hf, eqFold_refl, rfl⟩)⟩

end CM.Challenge
