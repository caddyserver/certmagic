import CM.Model.Account
/-!
What the invariants need of a step of the account protocol is which process moved, from where to
where, and what else changed: `Effect s e s'`, one constructor per kind of change; `Effect.of_step` is the
only place where `step` (18 events, 41 outcomes) is opened for case analysis, but for `step_register_pc`:
`Effect` does not record the event of a registration. Four relations on program points collect the moves:
`Reads`/`Fails` change nothing else (but `faults`), `Locks`/`Returns` go with taking / releasing the lock.
-/
namespace CM.Account

inductive Reads (s : St) : PC → PC → Prop
  | start {c} : c.canStart = true → Reads s c .loadReg
  | regFound {a} : s.reg = some a → Reads s .loadReg (.loadKey a)
  | regMissing : Reads s .loadReg .wantLock
  | keyFound {a b} : s.key = some b → Reads s (.loadKey a) (.ready a b)
  | keyMissing {a} : Reads s (.loadKey a) .wantLock
  | reloaded {ab} : stored s = some ab → Reads s .reload (.release (some ab))
  | refused {k} : Reads s (.register k) (.release none)
  | savePre {k} : Reads s (.savePre k) (.saveReg k)
  | orderOk {a} : s.ca a = true → Reads s (.ready a a) (.ready a a)
  | orderBadKey {a k} : s.ca a = true → a ≠ k → Reads s (.ready a k) .failed
  | dneMine {a b} : stored s = some (a, b) → Reads s (.dneCheck a) (.dneDelReg a)
  | dneNotMine {a a' b} : stored s = some (a', b) → a' ≠ a → Reads s (.dneCheck a) (.dneRel true)
  | dneNothing {a} : stored s = none → Reads s (.dneCheck a) (.dneDelReg a)

/-- through the deferred unlock, whether or not the unlock itself worked -/
inductive Returns : PC → PC → Prop
  | account {a b} : Returns (.release (some (a, b))) (.ready a b)
  | error : Returns (.release none) .failed
  | again : Returns (.dneRel true) .loadReg
  | giveUp : Returns (.dneRel false) .failed

/-- a failed deletion of the key file also counts in `delKeyFaults` and has a constructor of `Effect` to itself -/
inductive Fails : PC → PC → Prop
  | loadReg : Fails .loadReg .failed
  | loadKey {a} : Fails (.loadKey a) .failed
  | acq : Fails .wantLock .failed
  | reload : Fails .reload (.release none)
  | savePre {k} : Fails (.savePre k) (.release none)
  | saveReg {k} : Fails (.saveReg k) (.release none)
  | saveKey {k prev} : Fails (.saveKey k prev) (.rollback k prev)
  | rollback {k prev} : Fails (.rollback k prev) (.release none)
  | unlock {c c'} : Returns c c' → Fails c c'
  | dneAcq {a} : Fails (.dneLock a) .failed
  | dneCheck {a} : Fails (.dneCheck a) (.dneRel false)
  | dneDelReg {a} : Fails (.dneDelReg a) (.dneRel false)

inductive Locks : PC → PC → Prop
  | construct : Locks .wantLock .reload
  | recreate {a} : Locks (.dneLock a) (.dneCheck a)

/-- the event is recorded only where a theorem speaks of it -/
inductive Effect (s : St) (e : Ev) : St → Prop
  | reads {p c c'} (hc : s.pc p = c) (h : Reads s c c') : Effect s e { s with pc := upd s.pc p c' }
  | fails {p c c'} (hc : s.pc p = c) (h : Fails c c') :
      Effect s e { s with pc := upd s.pc p c', faults := s.faults + 1 }
  | keyDeleteFails {p a} (hc : s.pc p = .dneDelKey a) :
      Effect s e { s with pc := upd s.pc p (.dneRel false), faults := s.faults + 1,
                          delKeyFaults := s.delKeyFaults + 1 }
  | locks {p c c'} (hc : s.pc p = c) (hl : s.lock = none) (h : Locks c c') :
      Effect s e { s with lock := some p, pc := upd s.pc p c' }
  | unlocks {p c c'} (hc : s.pc p = c) (h : Returns c c') :
      Effect s e { s with lock := none, pc := upd s.pc p c' }
  | newKey {p} (k) (hc : s.pc p = .reload) (hs : stored s = none) (hk : s.nextKey ≤ k) :
      Effect s e { s with pc := upd s.pc p (.register k), nextKey := k + 1 }
  | registered {p k} (hc : s.pc p = .register k) :
      Effect s e { s with ca := updB s.ca k true, registers := s.registers + 1, pc := upd s.pc p (.savePre k) }
  | answerLost {p k} (hc : s.pc p = .register k) :
      Effect s e { s with ca := updB s.ca k true, registers := s.registers + 1, faults := s.faults + 1,
                          pc := upd s.pc p (.release none) }
  | regStored {p k} (hc : s.pc p = .saveReg k) :
      Effect s e { s with reg := some k, pc := upd s.pc p (.saveKey k s.reg), regW := updB s.regW k true }
  | keyStored {p k prev} (hc : s.pc p = .saveKey k prev) :
      Effect s e { s with key := some k, pc := upd s.pc p (.release (some (k, k))), keyW := updB s.keyW k true }
  | regRestored {p k prev} (hc : s.pc p = .rollback k prev) :
      Effect s e { s with reg := prev, pc := upd s.pc p (.release none) }
  | disowned {p a k} (he : e = .order p) (hc : s.pc p = .ready a k) (hca : s.ca a = false) :
      Effect s e { s with pc := upd s.pc p (.dneLock a), dneAns := updB s.dneAns a true }
  | forgotten {a} : Effect s e { s with ca := updB s.ca a false, forgets := s.forgets + 1 }
  | regDeleted {p a} (he : e = .dneDelReg p true) (hc : s.pc p = .dneDelReg a) :
      Effect s e { s with reg := none, pc := upd s.pc p (.dneDelKey a) }
  | keyDeleted {p a} (hc : s.pc p = .dneDelKey a) :
      Effect s e { s with key := none, pc := upd s.pc p (.dneRel true) }

theorem Effect.of_step {s : St} {e : Ev} {s' : St} (h : step s e = some s') : Effect s e s' := by
  revert h
  -- one goal per leaf of `step`, in the order of its definition (a flag's `true` leaf first); `cases h` closes the
  -- refusals and puts the new state in place of `s'`
  fun_cases step s e
  all_goals intro h; cases h
  next hc => exact .reads rfl (.start hc)
  next hc => exact .fails hc .loadReg
  next hc _ _ hr => exact .reads hc (.regFound hr)
  next hc _ _ => exact .reads hc .regMissing
  next hc => exact .fails hc .loadKey
  next hc _ _ hk => exact .reads hc (.keyFound hk)
  next hc _ _ => exact .reads hc .keyMissing
  next hc hl => exact .locks hc hl .construct
  next hc _ => exact .fails hc .acq
  next hc => exact .fails hc .reload
  next hc _ _ hs => exact .reads hc (.reloaded hs)
  next hc _ hs hk => exact .newKey _ hc hs hk
  next hc => exact .registered hc
  next hc => exact .reads hc .refused
  next hc => exact .answerLost hc
  next hc => exact .fails hc .savePre
  next hc _ => exact .reads hc .savePre
  next hc => exact .regStored hc
  next hc _ => exact .fails hc .saveReg
  next hc => exact .keyStored hc
  next hc _ => exact .fails hc .saveKey
  next hc => exact .regRestored hc
  next hc _ => exact .fails hc .rollback
  next r hc _ =>
    cases r with
    | none => exact .unlocks hc .error
    | some ab => exact .unlocks hc .account
  next r hc _ _ =>
    cases r with
    | none => exact .fails hc (.unlock .error)
    | some ab => exact .fails hc (.unlock .account)
  next hc hca => exact .disowned rfl hc hca
  next p _ hc hca =>
    have := Effect.reads (e := .order p) hc (.orderOk (eq_true_of_ne_false hca))
    rwa [← hc, upd_self] at this
  next hc hca hk => exact .reads hc (.orderBadKey (eq_true_of_ne_false hca) hk)
  next => exact .forgotten
  next hc hl => exact .locks hc hl .recreate
  next hc _ => exact .fails hc .dneAcq
  next hc => exact .fails hc .dneCheck
  next hs hc => exact .reads hc (.dneMine hs)
  next hc _ _ _ hs hne => exact .reads hc (.dneNotMine hs hne)
  next hc _ hs => exact .reads hc (.dneNothing hs)
  next hc => exact .regDeleted rfl hc
  next hc _ => exact .fails hc .dneDelReg
  next hc => exact .keyDeleted hc
  next hc _ => exact .keyDeleteFails hc
  next r hc _ =>
    cases r with
    | false => exact .unlocks hc .giveUp
    | true => exact .unlocks hc .again
  next r hc _ _ =>
    cases r with
    | false => exact .fails hc (.unlock .giveUp)
    | true => exact .fails hc (.unlock .again)

theorem step_register_pc {s s' : St} {p : Nat} {out : RegOut} (h : step s (.register p out) = some s') :
    ∃ k, s.pc p = .register k := by
  dsimp only [step] at h
  split at h
  · exact ⟨_, ‹_›⟩
  · cases h

theorem reach_induct {P : St → Prop} (h0 : P init)
    (hs : ∀ {s e s'}, Reach s → P s → Effect s e s' → P s') : ∀ {s}, Reach s → P s := by
  intro s h
  induction h with
  | init => exact h0
  | step hr h ih => exact hs hr ih (Effect.of_step h)

/-- the fault and forget counters and the ghost flags only grow -/
structure Grows (s s' : St) : Prop where
  faults : s.faults ≤ s'.faults
  forgets : s.forgets ≤ s'.forgets
  dneAns : ∀ a, s.dneAns a = true → s'.dneAns a = true
  regW : ∀ a, s.regW a = true → s'.regW a = true
  keyW : ∀ a, s.keyW a = true → s'.keyW a = true

theorem Grows.refl (s : St) : Grows s s :=
  ⟨Nat.le_refl _, Nat.le_refl _, fun _ h => h, fun _ h => h, fun _ h => h⟩

theorem Grows.trans {s t u : St} (h : Grows s t) (h' : Grows t u) : Grows s u :=
  ⟨Nat.le_trans h.faults h'.faults, Nat.le_trans h.forgets h'.forgets,
   fun a ha => h'.dneAns a (h.dneAns a ha), fun a ha => h'.regW a (h.regW a ha),
   fun a ha => h'.keyW a (h.keyW a ha)⟩

theorem Effect.grows {s : St} {e : Ev} {s' : St} (h : Effect s e s') : Grows s s' := by
  -- the fields not named are those of `Grows.refl s`: the step leaves that part of the state as it is
  cases h with
  | fails | answerLost | keyDeleteFails => exact { Grows.refl s with faults := Nat.le_succ _ }
  | forgotten => exact { Grows.refl s with forgets := Nat.le_succ _ }
  | disowned => exact { Grows.refl s with dneAns := fun _ => updB_mono }
  | regStored => exact { Grows.refl s with regW := fun _ => updB_mono }
  | keyStored => exact { Grows.refl s with keyW := fun _ => updB_mono }
  | _ => exact { Grows.refl s with }

theorem run_grows {s : St} {tr : List Ev} {s' : St} (h : run s tr = some s') : Grows s s' := by
  revert h
  fun_induction run s tr <;> intro h
  next => cases h; exact Grows.refl _
  next hs1 ih => exact (Effect.of_step hs1).grows.trans (ih h)
  next => cases h

theorem run_reach {s : St} (hr : Reach s) {tr : List Ev} {s' : St} (h : run s tr = some s') : Reach s' := by
  revert h
  fun_induction run s tr <;> intro h
  next => cases h; exact hr
  next hs1 ih => exact ih (Reach.step hr hs1) h
  next => cases h

end CM.Account
