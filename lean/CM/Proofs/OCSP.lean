import CM.Model.OCSP
/-! What the parts of the OCSP model (`CM/Model/OCSP.lean`) compute: `current`, `pastExpiry`, `finish`, `usable`,
`query`, `staple`, `shouldForce`, `scan`, `written`, `afterForce`. C14 uses these parts through the lemmas here;
`maintain` itself, a five-branch table over them, is read directly by the four theorems about it (each picks its
branch with the scan decision it is given). -/
namespace CM.OCSP

theorem current_iff {now : Int} {r : Resp} :
    current now r = true ↔ r.thisUpdate ≤ now ∧ ∀ nu, r.nextUpdate = some nu → now ≤ nu := by
  unfold current
  cases r.nextUpdate <;> simp

theorem pastExpiry_false_iff {i : StapleIn} {r : Resp} :
    pastExpiry i r = false ↔ ∀ nu, r.nextUpdate = some nu → nu ≤ expiresAt i.notAfter := by
  unfold pastExpiry
  cases r.nextUpdate with
  | none => simp
  | some nu => simp only [decide_eq_false_iff_not, Option.some.injEq, forall_eq', Int.not_lt]

theorem finish_stapled_iff {i : StapleIn} {s src : Source} {r' r : Resp} {d : Bool} :
    (finish i s r' d).stapled = some (src, r) ↔
      s = src ∧ r' = r ∧ r'.status = .good ∧ pastExpiry i r' = false := by
  fun_cases finish i s r' d
  · next hpe => simp [hpe]
  · next hpe hg => simp [hpe, hg]
  · next hpe hg => simp [hg]

theorem finish_stored {i : StapleIn} {s : Source} {r : Resp} {d : Bool}
    (h : (finish i s r d).stored = true) : (finish i s r d).stapled = some (.responder, r) := by
  revert h
  fun_cases finish i s r d
  all_goals intro h
  · cases h
  · simp only [decide_eq_true_eq] at h; rw [h]
  · cases h

theorem finish_of_storage (i : StapleIn) (r : Resp) (d : Bool) :
    (finish i .storage r d).contacted = false ∧ (finish i .storage r d).deleted = d ∧
      (finish i .storage r d).stored = false := by
  fun_cases finish i .storage r d <;> exact ⟨rfl, rfl, rfl⟩

theorem usable_eq_some {i : StapleIn} {r : Resp} {d : Bool} :
    usable i = (some r, d) ↔ d = false ∧ i.persisted = .parsed r ∧ storedVerifies i r = true ∧
      fresh i.now r = true ∧ current i.now r = true := by
  constructor
  · fun_cases usable i
    -- only the leaf that returns a response survives
    all_goals intro h; cases h
    next hp hv hfc => exact ⟨rfl, hp, hv, Bool.and_eq_true_iff.1 hfc⟩
  · rintro ⟨rfl, hp, hv, hf, hc⟩
    simp [usable, hp, hv, hf, hc]

theorem query_ok {i : StapleIn} {r : Resp} :
    query i = .ok r ↔ i.responder = .answer r ∧ answerVerifies r = true ∧ current i.now r = true := by
  constructor
  · fun_cases query i
    all_goals intro h; cases h
    next hr hc => exact ⟨hr, Bool.and_eq_true_iff.1 hc⟩
  · rintro ⟨hr, hv, hc⟩
    simp [query, hr, hv, hc]

theorem staple_of_usable {i : StapleIn} {r : Resp} {d : Bool} (hd : i.disabled = false)
    (hu : usable i = (some r, d)) : staple i = finish i .storage r d := by
  simp [staple, hd, hu]

theorem staple_cases (i : StapleIn) :
    (∃ src r, staple i = finish i src r (usable i).2 ∧
      ((src = .storage ∧ (usable i).1 = some r) ∨ (src = .responder ∧ query i = .ok r))) ∨
    ((staple i).stapled = none ∧ (staple i).stored = false) := by
  fun_cases staple i
  · exact Or.inr ⟨rfl, rfl⟩
  · next r hu => exact Or.inl ⟨_, r, rfl, Or.inl ⟨rfl, hu⟩⟩
  · exact Or.inr ⟨rfl, rfl⟩
  · next r hq => exact Or.inl ⟨_, r, rfl, Or.inr ⟨rfl, hq⟩⟩

theorem shouldForce_iff {m n : Bool} {o : Option Resp} :
    shouldForce m n o = true ↔ m = true ∧ n = true ∧ ∃ r, o = some r ∧ r.status = .revoked := by
  unfold shouldForce
  cases o <;> simp [and_assoc]

theorem scan_eq_forceRenew {now : Int} {e : Entry} :
    scan now e = .forceRenew ↔
      (e.leafNil || e.expired) = false ∧ shouldForce e.managed e.hasNames e.ocsp = true := by
  constructor
  · fun_cases scan now e
    all_goals intro h; cases h
    next h1 h2 => exact ⟨Bool.eq_false_iff.2 h1, h2⟩
  · rintro ⟨h1, h2⟩
    simp [scan, h1, h2]

theorem written_kept {e : Entry} {o : StapleOut} {sc : Bool} : ∃ a b, written e o sc = .kept a b := by
  fun_cases written e o sc <;> exact ⟨_, _, rfl⟩

theorem written_staple {e : Entry} {o : StapleOut} {sc : Bool} {a b : Option Resp}
    (h : written e o sc = .kept a b) :
    b = e.staple ∨ ∃ src r, o.stapled = some (src, r) ∧ b = some r := by
  revert h
  fun_cases written e o sc
  all_goals intro h; cases h
  · fun_cases localStaple e o
    · next src r hst => exact Or.inr ⟨src, r, hst, rfl⟩
    · exact Or.inl rfl
  · exact Or.inl rfl

theorem afterForce_kept {renew : Renew} {w : After} {a b : Option Resp}
    (h : afterForce renew w = .kept a b) : w = .kept a b := by
  cases renew with
  | reloadFail => exact h
  | _ => cases h

theorem afterForce_of_ne_reloadFail {renew : Renew} (hr : renew ≠ .reloadFail) {w : After} :
    (afterForce renew w = .replaced ∨ afterForce renew w = .removed) ∧
      (afterForce renew w = .replaced ↔ renew = .ok) := by
  cases renew <;> simp [afterForce] at hr ⊢

end CM.OCSP
