import CM.Model.FileLockSim
import CM.Proofs.FileLockStep
/-! A contender that runs alone with exact timers, through what it sees of the state (`Frame`). "From this view it
gets the lock in time" (`Wins`) is closed backwards under its steps: each lemma is an implication between `Wins` at
two views, and the recovery bounds compose them. -/
namespace CM.FileLock

theorem soloRun_step {c : Params} (n : Nat) {s s' : State} {p : Nat} {e : Ev}
    (h1 : soloNext s p = some e) (h2 : step c s e = some s') : soloRun c (n + 1) s p = soloRun c n s' p := by
  simp only [soloRun, h1, h2]

theorem soloRun_stop (c : Params) (n : Nat) (s : State) (p : Nat)
    (h : ∀ e, soloNext s p = some e → step c s e = none) : soloRun c n s p = s := by
  fun_cases soloRun c n s p
  next => rfl
  next e _ hs hn => rw [h e hn] at hs; cases hs
  next => rfl
  next => rfl

/-- running alone with exact timers from `s`, `p` holds the lock at some instant up to `B` (the words of `C08_recovers`) -/
def Gets (c : Params) (p B : Nat) (s : State) : Prop :=
  ∃ n j t', (soloRun c n s p).pc p = .holding j t' ∧ (soloRun c n s p).now = t' ∧ t' ≤ B

theorem Gets.step {c : Params} {p B : Nat} {s s' : State} {e : Ev} (h1 : soloNext s p = some e)
    (h2 : step c s e = some s') (g : Gets c p B s') : Gets c p B s := by
  obtain ⟨n, hn⟩ := g
  exact ⟨n + 1, by rw [soloRun_step n h1 h2]; exact hn⟩

/-- what the contender sees of a state: its pc, the file, the clock -/
structure Frame (s : State) (p : Nat) (x : PC) (f : Option (Nat × Content)) (t : Nat) : Prop where
  pc : s.pc p = x
  file : s.file = f
  now : s.now = t

/-- whatever else the state holds: a contender at `x` that sees the file `f` at instant `t` gets the lock by `B` -/
def Wins (c : Params) (p B : Nat) (x : PC) (f : Option (Nat × Content)) (t : Nat) : Prop :=
  ∀ s, Frame s p x f t → Gets c p B s

section
variable {c : Params} {p B e i cr u t due : Nat} {f : Option (Nat × Content)}

/-- a step that only moves `p`'s pc keeps the file and the clock: `Wins` at the target view gives `Wins` at the
source -/
theorem wins_move {x x' : PC} {ev : Ev}
    (hm : ∀ {s : State}, Frame s p x f t → soloNext s p = some ev ∧ Moves c s p x ev x')
    (w : Wins c p B x' f t) : Wins c p B x f t := fun _ F =>
  .step (hm F).1 (Effect.move F.pc (hm F).2).step_eq (w _ ⟨upd_same, F.file, F.now⟩)

theorem wins_create (w : ∀ i, Wins c p B (.created i) (some (i, .empty)) t) : Wins c p B (.try_ e) none t := fun s F =>
  .step (e := .tryCreate p) (by simp only [soloNext, F.pc]) (Effect.create F.pc F.file).step_eq
    (w _ _ ⟨upd_same, rfl, F.now⟩)

theorem wins_write (hB : t ≤ B) : Wins c p B (.created i) f t := fun s F =>
  .step (e := .writeMeta p) (by simp only [soloNext, F.pc]) (Effect.writeMeta F.pc).step_eq
    ⟨0, i, t, F.now ▸ upd_same, F.now, hB⟩

theorem wins_remove (w : Wins c p B (.try_ e) none t) : Wins c p B (.removing e) f t := fun s F =>
  .step (e := .remove p) (by simp only [soloNext, F.pc]) (Effect.remove F.pc).step_eq (w _ ⟨upd_same, rfl, F.now⟩)

theorem wins_takeover (hB : t ≤ B) : Wins c p B (.removing e) f t :=
  wins_remove (wins_create fun _ => wins_write hB)

/-- the create fails, the file is read; the read is a move of the state after the failed create (same file and clock) -/
theorem wins_read {x' : PC} {g : Nat × Content}
    (hm : ∀ {s : State}, s.file = some g → s.now = t → Moves c s p (.exists_ e) (.observe p) x')
    (w : Wins c p B x' (some g) t) : Wins c p B (.try_ e) (some g) t :=
  wins_move (fun F => ⟨by simp only [soloNext, F.pc], .busy F.file⟩)
    (wins_move (fun F => ⟨by simp only [soloNext, F.pc], hm F.file F.now⟩) w)

theorem wins_wake {x : PC} (hx : x = .sleepE e t ∨ x = .poll e t) (w : Wins c p B (.try_ e) f t) :
    Wins c p B x f t :=
  wins_move (fun F => ⟨by rcases hx with rfl | rfl <;> simp only [soloNext, F.pc, F.now, Nat.le_refl, if_true],
    .wake hx (Nat.le_of_eq F.now.symm)⟩) w

theorem wins_sleep {x : PC} (hx : x = .sleepE e due ∨ x = .poll e due) (hd : t < due)
    (w : Wins c p B (.try_ e) f due) : Wins c p B x f t := fun s F => by
  have hnd : ¬ due ≤ s.now := by rw [F.now]; exact Nat.not_le_of_lt hd
  have hnow : s.now + (due - s.now) = due := by rw [F.now]; exact Nat.add_sub_cancel' (Nat.le_of_lt hd)
  have h1 : soloNext s p = some (.tick (due - s.now)) := by
    rcases hx with rfl | rfl <;> simp only [soloNext, F.pc, if_neg hnd]
  -- the clock jumps to `due`, where the timer fires
  exact .step h1 rfl (wins_wake hx w _ ⟨F.pc, F.file, hnow⟩)

theorem wins_take (hs : stale c t cr u = true) (hB : t ≤ B) : Wins c p B (.try_ e) (some (i, .stamp cr u)) t :=
  wins_read (fun hf hn => .expired hf (hn ▸ hs)) (wins_takeover hB)

/-- the dead holder's file carries a stamp and is not yet stale (`D` is the last instant at which it is
not): the contender polls until `D` is past and holds the lock within one poll interval after `D`;
`n` bounds the number of polls -/
theorem wins_stamp (hP : 0 < c.P) {D : Nat} (hD : ∀ t, stale c t cr u = true ↔ D < t) (hB : D + c.P ≤ B)
    (n e t : Nat) (hle : t ≤ D) (h : D < t + n) : Wins c p B (.try_ e) (some (i, .stamp cr u)) t := by
  induction n generalizing e t with
  | zero => exact absurd h (Nat.not_lt_of_le hle)
  | succ n ih =>
    have hs : stale c t cr u = false := Bool.eq_false_iff.2 fun hs => Nat.not_lt_of_le hle ((hD t).mp hs)
    -- one poll: the create fails, the file reads fresh, the contender sleeps `P`
    refine wins_read (x' := .poll 0 (t + c.P)) (fun hf hn => by subst hn; exact .fresh hf hs) ?_
    refine wins_sleep (Or.inr rfl) (Nat.lt_add_of_pos_right hP) ?_
    by_cases hle' : t + c.P ≤ D
    · exact ih 0 (t + c.P) hle' (Nat.lt_of_lt_of_le h (by rw [Nat.add_right_comm]; exact Nat.add_le_add_left hP _))
    · exact wins_take ((hD _).mpr (Nat.lt_of_not_le hle')) (Nat.le_trans (Nat.add_le_add_right hle _) hB)

/-- an empty or undecodable file: `k = N - 1 - e` retries of `E`, then it is taken over -/
theorem wins_empty (hE : 0 < c.E) {cont : Content} (hc : cont = .empty ∨ cont = .garbage) (k e t : Nat)
    (h : e + 1 + k = c.N) : Wins c p (t + k * c.E) (.try_ e) (some (i, cont)) t := by
  induction k generalizing e t with
  | zero =>
    refine wins_read (x' := afterEmpty c t e) (fun hf hn => by subst hn; exact .unread hf hc) ?_
    rw [show afterEmpty c t e = .removing (e + 1) from if_neg (Nat.not_lt_of_le (Nat.le_of_eq h.symm))]
    exact wins_takeover (Nat.le_add_right _ _)
  | succ k ih =>
    refine wins_read (x' := afterEmpty c t e) (fun hf hn => by subst hn; exact .unread hf hc) ?_
    rw [show afterEmpty c t e = .sleepE (e + 1) (t + c.E) from
      if_pos (by rw [← h]; exact Nat.lt_add_of_pos_right (Nat.succ_pos k))]
    refine wins_sleep (Or.inl rfl) (Nat.lt_add_of_pos_right hE) ?_
    have w := ih (e + 1) (t + c.E) (by rw [← h, Nat.add_assoc (e + 1), Nat.add_comm 1 k])
    rw [Nat.add_assoc, Nat.add_comm c.E, ← Nat.succ_mul] at w
    exact w

end

theorem soloRun_reach (c : Params) (n : Nat) (s0 s : State) (p : Nat)
    (h : Reach c (fun _ _ _ => True) s0 s) : Reach c (fun _ _ _ => True) s0 (soloRun c n s p) := by
  fun_induction soloRun c n s p
  next => exact h
  next hs ih => exact ih (.step h hs trivial)
  next => exact h
  next => exact h

end CM.FileLock
