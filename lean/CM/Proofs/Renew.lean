import CM.Model.Renew
/-!
Lemmas about the C04 model (`CM/Model/Renew.lean`): what `needsRenewal`, `baseDue`, `effSelected` and
`inWindow` compute, as used by `CM/Props/C04.lean`.
-/
namespace CM.Renew

@[simp] theorem ofBool_yes (b : Bool) : Verdict.ofBool b = .yes ↔ b = true := by
  cases b <;> simp [Verdict.ofBool]

@[simp] theorem ofBool_ne_panics (b : Bool) : Verdict.ofBool b ≠ .panics := by
  cases b <;> simp [Verdict.ofBool]

theorem baseDue_iff (i : In) : baseDue i = true ↔
    (inWindow i.now i.nb (expiresAt i.na) i.rnum i.rden = true ∨
     inWindow i.now i.nb (expiresAt i.na) 1 emergencyDen = true ∨
     expiresAt i.na - i.now < i.interval * intervalFactor) := by
  simp [baseDue, or_assoc]

theorem needsRenewal_panics (i : In) :
    needsRenewal i = .panics ↔ i.disableARI = false ∧ effSelected i = .panics := by
  fun_cases needsRenewal i <;> simp [*]

theorem needsRenewal_disabled {i : In} (hd : i.disableARI = true) : needsRenewal i = .ofBool (baseDue i) := by
  simp only [needsRenewal, hd, if_true]

theorem needsRenewal_selected {i : In} {t : Int} (hd : i.disableARI = false) (hs : effSelected i = .some t) :
    needsRenewal i = .ofBool (decide (i.now > t - i.interval) ||
      inWindow i.now i.nb (expiresAt i.na) 1 ariEmergencyDen || baseDue i) := by
  simp only [needsRenewal, hd, hs, Bool.false_eq_true, if_false]

theorem effSelected_window {i : In} {ws we : Int} (hsel : i.selected = none) (hw : i.window = some (ws, we)) :
    effSelected i =
      if we / sec - (ws / sec + 1) ≤ 0 then .panics else .some ((i.rnd + (ws / sec + 1)) * sec) := by
  simp only [effSelected, hsel, hw]

theorem inWindow_mono {now now' nb exp : Int} {num den : Nat} (hle : now ≤ now')
    (h : inWindow now nb exp num den = true) : inWindow now' nb exp num den = true := by
  simp only [inWindow, decide_eq_true_eq] at h ⊢
  omega

/-- the improvised time lies after the start of the window it is drawn for -/
theorem lt_improvised (ws : Int) {rnd : Int} (hr : 0 ≤ rnd) : ws < (rnd + (ws / sec + 1)) * sec :=
  Int.lt_of_lt_of_le (Int.lt_ediv_add_one_mul_self ws (by decide))
    (Int.mul_le_mul_of_nonneg_right (Int.le_add_of_nonneg_left hr) (by decide))

end CM.Renew
