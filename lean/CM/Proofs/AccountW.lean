import CM.Proofs.AccountStep
/-!
# Accounts in use were written to storage (helper invariant for C20)

Ghost fields `regW`/`keyW` of the account protocol's state record which registrations and
private keys have been stored successfully at some time. The invariant `WInv` says that
everything a process carries from a read, a save or a reload — and in particular the account a
constructed client (`ready a b`) holds — was written to storage at some time, whatever faults
happened. Used by `C20_orders_only_with_persisted` in `CM/Props/C20.lean`.
-/
namespace CM.Account

/-- what a process's program counter carries was written to storage at some time -/
def pcW (rw kw : Nat → Bool) : PC → Prop
  | .loadKey a => rw a = true
  | .release (some ab) => rw ab.1 = true ∧ kw ab.2 = true
  | .saveKey k prev => rw k = true ∧ ∀ a, prev = some a → rw a = true
  | .rollback _ prev => ∀ a, prev = some a → rw a = true
  | .ready a b => rw a = true ∧ kw b = true
  | _ => True

structure WInv (s : St) : Prop where
  reg : ∀ a, s.reg = some a → s.regW a = true
  key : ∀ b, s.key = some b → s.keyW b = true
  pcs : ∀ q, pcW s.regW s.keyW (s.pc q)

theorem WInv.pcsAt {s : St} {p : Nat} {c : PC} (h : WInv s) (hc : s.pc p = c) : pcW s.regW s.keyW c :=
  hc ▸ h.pcs p

theorem pcW_mono {rw kw rw' kw' : Nat → Bool} (hr : ∀ a, rw a = true → rw' a = true)
    (hk : ∀ a, kw a = true → kw' a = true) {c : PC} (h : pcW rw kw c) : pcW rw' kw' c := by
  cases c with
  | loadKey => exact hr _ h
  | saveKey => exact ⟨hr _ h.1, fun a ha => hr _ (h.2 a ha)⟩
  | rollback => exact fun a ha => hr _ (h a ha)
  | release r =>
    cases r with
    | none => trivial
    | some ab => exact ⟨hr _ h.1, hk _ h.2⟩
  | ready => exact ⟨hr _ h.1, hk _ h.2⟩
  | _ => trivial

/-- what is read from storage was written to it -/
theorem pcW_reads {s : St} {c c' : PC} (hI : WInv s) (hr : Reads s c c') (h : pcW s.regW s.keyW c) :
    pcW s.regW s.keyW c' := by
  cases hr with
  | regFound hra => exact hI.reg _ hra
  | keyFound hkb => exact ⟨h, hI.key _ hkb⟩
  | reloaded hs =>
    obtain ⟨hra, hkb⟩ := stored_some_iff.mp hs
    exact ⟨hI.reg _ hra, hI.key _ hkb⟩
  | orderOk => exact h
  | _ => trivial

theorem pcW_returns {rw kw : Nat → Bool} {c c' : PC} (hr : Returns c c') (h : pcW rw kw c) : pcW rw kw c' := by
  cases hr with
  | account => exact h
  | _ => trivial

theorem pcW_fails {rw kw : Nat → Bool} {c c' : PC} (hf : Fails c c') (h : pcW rw kw c) : pcW rw kw c' := by
  cases hf with
  | saveKey => exact h.2  -- the roll-back will put back what was stored before
  | unlock hr => exact pcW_returns hr h
  | _ => trivial

theorem winv_step {s : St} {e : Ev} {s' : St} (hI : WInv s) (h : Effect s e s') : WInv s' := by
  -- the others keep what they carry: the flags only grow (in the form `Upd.forall_upd` asks for)
  have others : ∀ {p : Nat} q, q ≠ p → pcW s'.regW s'.keyW (s.pc q) := fun q _ =>
    pcW_mono h.grows.regW h.grows.keyW (hI.pcs q)
  cases h with
  | reads hc hr => exact ⟨hI.reg, hI.key, Upd.forall_upd (pcW_reads (s := s) hI hr (hI.pcsAt hc)) others⟩
  | fails hc hf => exact ⟨hI.reg, hI.key, Upd.forall_upd (pcW_fails hf (hI.pcsAt hc)) others⟩
  | unlocks hc hr => exact ⟨hI.reg, hI.key, Upd.forall_upd (pcW_returns hr (hI.pcsAt hc)) others⟩
  | locks _ _ hk => exact ⟨hI.reg, hI.key, Upd.forall_upd (by cases hk <;> trivial) others⟩
  | keyDeleteFails | newKey p | registered | answerLost | disowned =>
    exact ⟨hI.reg, hI.key, Upd.forall_upd trivial others⟩
  | forgotten => exact ⟨hI.reg, hI.key, hI.pcs⟩
  | regStored hc =>
    refine ⟨fun a ha => ?_, hI.key, Upd.forall_upd ⟨updB_same, fun a ha => updB_mono (hI.reg a ha)⟩ others⟩
    cases ha; exact updB_same
  | keyStored hc =>
    have h1 := hI.pcsAt hc
    refine ⟨hI.reg, fun b hb => ?_, Upd.forall_upd ⟨h1.1, updB_same⟩ others⟩
    cases hb; exact updB_same
  | regRestored hc =>
    have h1 := hI.pcsAt hc
    exact ⟨h1, hI.key, Upd.forall_upd trivial others⟩
  | regDeleted => exact ⟨nofun, hI.key, Upd.forall_upd trivial others⟩
  | keyDeleted => exact ⟨hI.reg, nofun, Upd.forall_upd trivial others⟩

theorem winv_reach {s : St} (h : Reach s) : WInv s :=
  reach_induct ⟨nofun, nofun, fun _ => trivial⟩ (fun _ => winv_step) h

end CM.Account
