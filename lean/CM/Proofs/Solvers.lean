import CM.Model.Solvers
/-! Helper lemmas for C16: what the building blocks and `apply` do, pointwise, as state equations;
induction over `Reach` with `step` resolved; the inductive invariants. -/
namespace CM.Solvers

theorem upd_same {α : Type} (f : Nat → α) (k : Nat) (v : α) : upd f k v k = v := if_pos rfl
theorem upd_other {α : Type} (f : Nat → α) (k x : Nat) (v : α) (h : x ≠ k) : upd f k v x = f x := if_neg h

theorem upd_eq {α : Type} {f g : Nat → α} {k : Nat} {v : α} (hk : g k = v)
    (ho : ∀ x, x ≠ k → g x = f x) : upd f k v = g := by
  funext x
  by_cases h : x = k
  · rw [h, upd_same, hk]
  · rw [upd_other f k x v h, ho x h]

/-- does this `Present` open our listener, if we have none? -/
def opens (c : Ch) (r : PRes) : Bool :=
  match c.typ with
  | .http => r.bind == .ok
  | .alpn => r.cert && r.bind == .ok
  | .dns => false

theorem listenPresent_eq (s : State) (a : Nat) (b : Bind) :
    listenPresent s a b =
      { s with cnt := fun x => s.cnt x + (if a = x then 1 else 0)
               lis := fun x => s.lis x || (a == x && b == .ok)
               ent := fun x => s.ent x || a == x } := by
  unfold listenPresent
  congr 1
  all_goals exact upd_eq (by simp) (fun x hx => by simp [Ne.symm hx])

theorem listenCleanUp_eq (s : State) (a : Nat) :
    listenCleanUp s a =
      { s with cnt := fun x => s.cnt x - (if a = x then 1 else 0)
               lis := fun x => if a = x ∧ s.cnt x - 1 = 0 then false else s.lis x
               ent := fun x => if a = x then decide (s.cnt x - 1 ≠ 0) else s.ent x } := by
  unfold listenCleanUp
  congr 1
  all_goals exact upd_eq (by simp) (fun x hx => by simp [Ne.symm hx])

theorem storePresent_eq (s : State) (c : Ch) (r : PRes) :
    storePresent s c r =
      { s with mem := fun k => if k = c.key then true else s.mem k
               tok := fun k => if k = c.key then r.store || s.tok k else s.tok k } := by
  unfold storePresent
  congr 1
  exact upd_eq (by simp) (fun x hx => by simp [hx])

theorem storeCleanUp_eq (s : State) (c : Ch) (r : CRes) :
    storeCleanUp s c r =
      { s with mem := fun k => if k = c.key then false else s.mem k
               tok := fun k => if k = c.key then !r.del && s.tok k else s.tok k } := by
  unfold storeCleanUp
  congr 1
  exact upd_eq (by simp) (fun x hx => by simp [hx])

theorem apply_present (s : State) (c : Ch) (r : PRes) :
    apply s (.present c r) =
      { cnt := fun a => s.cnt a + (if uses a c then 1 else 0)
        lis := fun a => s.lis a || (uses a c && opens c r)
        ent := fun a => s.ent a || uses a c
        tok := fun k => if c.typ ≠ .dns ∧ k = c.key then r.store || s.tok k else s.tok k
        mem := fun k => if k = c.key then true else s.mem k
        recMem := if c.typ = .dns ∧ r.prov = true then s.recMem ++ [(c.rname, c.rval)] else s.recMem
        provider := if c.typ = .dns ∧ r.prov = true then (c.rname, c.rval) :: s.provider else s.provider
        active := c :: s.active } := by
  cases hc : c.typ <;> simp [apply, hc, listenPresent_eq, storePresent_eq, uses, opens, Typ.listens]
  case alpn => cases r.cert <;> rfl  -- the bind that counts is `if r.cert then r.bind else .err`
  case dns => funext k; simp [upd]   -- the DNS branch writes `mem` with `upd` itself

/-- `r.cancelled` does not occur on the right: the caller's cancellation changes nothing -/
theorem apply_cleanUp (s : State) (c : Ch) (r : CRes) :
    apply s (.cleanUp c r) =
      { cnt := fun a => s.cnt a - (if uses a c then 1 else 0)
        lis := fun a => if uses a c = true ∧ s.cnt a - 1 = 0 then false else s.lis a
        ent := fun a => if uses a c = true then decide (s.cnt a - 1 ≠ 0) else s.ent a
        tok := fun k => if c.typ ≠ .dns ∧ k = c.key then !r.del && s.tok k else s.tok k
        mem := fun k => if k = c.key then false else s.mem k
        recMem := if c.typ = .dns then s.recMem.erase (c.rname, c.rval) else s.recMem
        provider := if c.typ = .dns ∧ (c.rname, c.rval) ∈ s.recMem ∧ r.prov = true
                    then s.provider.erase (c.rname, c.rval) else s.provider
        active := s.active.erase c } := by
  cases hc : c.typ <;> simp [apply, hc, listenCleanUp_eq, storeCleanUp_eq, uses, Typ.listens]
  case dns => funext k; simp [upd]   -- the DNS branch writes `mem` with `upd` itself

theorem step_present {s s' : State} {c : Ch} {r : PRes} :
    step s (.present c r) = some s' ↔ apply s (.present c r) = s' := by
  simp only [step, Option.some.injEq]

theorem step_cleanUp {s s' : State} {c : Ch} {r : CRes} :
    step s (.cleanUp c r) = some s' ↔ c ∈ s.active ∧ apply s (.cleanUp c r) = s' := by
  simp only [step, Option.ite_none_right_eq_some, Option.some.injEq]

/-- induction over reachable states with `step` resolved: a `Present` always applies, a
`CleanUp` applies to a pending challenge -/
theorem Reach.induct {P : Ev → Prop} {p0 : List (Nat × Nat)} {motive : ∀ s, Reach P p0 s → Prop}
    (init : motive _ .init)
    (present : ∀ s c r (hr : Reach P p0 s) (hp : P (.present c r)),
      motive s hr → motive (apply s (.present c r)) (.next hr hp rfl))
    (cleanUp : ∀ s c r (hr : Reach P p0 s) (hp : P (.cleanUp c r)) (hm : c ∈ s.active),
      motive s hr → motive (apply s (.cleanUp c r)) (.next hr hp (if_pos hm)))
    {s : State} (h : Reach P p0 s) : motive s h := by
  induction h with
  | init => exact init
  | @next s s' e hr hp hs ih =>
    cases e with
    | present c r => cases step_present.mp hs; exact present s c r hr hp ih
    | cleanUp c r =>
      obtain ⟨hm, rfl⟩ := step_cleanUp.mp hs
      exact cleanUp s c r hr hp hm ih

/-- a run of events ends in a reachable state (used to exhibit one from a trace: `exMid_reach` in
Props/C16) -/
theorem reach_of_run {P : Ev → Prop} {p0 : List (Nat × Nat)} (es : List Ev) {s s' : State}
    (hr : Reach P p0 s) (hp : ∀ e ∈ es, P e) (h : run s es = some s') : Reach P p0 s' := by
  fun_induction run s es with
  | case1 s => cases h; exact hr
  | case2 s e es s1 hs ih =>
    exact ih (.next hr (hp e List.mem_cons_self) hs) (fun x hx => hp x (List.mem_cons_of_mem _ hx)) h
  | case3 => cases h

theorem countP_erase_add {α : Type} [BEq α] [LawfulBEq α] (p : α → Bool) {c : α} {l : List α}
    (h : c ∈ l) : (l.erase c).countP p + (if p c then 1 else 0) = l.countP p := by
  rw [(List.perm_cons_erase h).countP_eq p, List.countP_cons]

theorem inv_count {P : Ev → Prop} {p0 : List (Nat × Nat)} {s : State} (h : Reach P p0 s) (a : Nat) :
    s.cnt a = ((s.active.countP (uses a) : Nat) : Int) := by
  induction h using Reach.induct with
  | init => rfl
  | present s c r _ _ ih =>
    rw [apply_present]
    simp only [ih, List.countP_cons]
    split <;> rfl
  | cleanUp s c r _ _ hm ih =>
    rw [apply_cleanUp]
    simp only [ih, ← countP_erase_add (uses a) hm]
    split <;> simp

theorem cnt_pos_iff {P : Ev → Prop} {p0 : List (Nat × Nat)} {s : State} (h : Reach P p0 s) (a : Nat) :
    0 < s.cnt a ↔ ∃ c ∈ s.active, uses a c = true := by
  rw [inv_count h a, Int.natCast_pos, List.countP_pos_iff]

theorem inv_listener {P : Ev → Prop} {p0 : List (Nat × Nat)} {s : State} (h : Reach P p0 s) (a : Nat) :
    (s.lis a = true → 0 < s.cnt a) ∧ (s.ent a = true ↔ 0 < s.cnt a) := by
  induction h using Reach.induct with
  | init => simp [State.init]
  | present s c r hr _ ih =>
    rw [apply_present]
    cases hu : uses a c
    · simpa [hu] using ih
    · have h0 : 0 < s.cnt a + 1 := by rw [inv_count hr a]; omega
      simp only [hu, if_true, Bool.or_true, true_iff]
      exact ⟨fun _ => h0, h0⟩
  | cleanUp s c r hr _ hm ih =>
    rw [apply_cleanUp]
    cases hu : uses a c
    · simpa [hu] using ih
    · have h1 : 0 < s.cnt a := (cnt_pos_iff hr a).mpr ⟨c, hm, hu⟩
      simp only [hu, if_true, true_and, decide_eq_true_eq]
      constructor
      · split
        · intro hl; cases hl
        · omega
      · omega

theorem exists_mem_erase {α : Type} [BEq α] [LawfulBEq α] {Q : α → Prop} {c : α} {l : List α}
    (h : ∃ d ∈ l, Q d) (hc : ¬ Q c) : ∃ d ∈ l.erase c, Q d :=
  let ⟨d, hd, hq⟩ := h
  ⟨d, (List.mem_erase_of_ne fun (e : d = c) => hc (e ▸ hq)).mpr hd, hq⟩

theorem inv_mem {P : Ev → Prop} {p0 : List (Nat × Nat)} {s : State} (h : Reach P p0 s) (k : Nat)
    (hk : s.mem k = true) : ∃ c ∈ s.active, c.key = k := by
  induction h using Reach.induct with
  | init => cases hk
  | present s c r _ _ ih =>
    rw [apply_present] at hk ⊢
    by_cases h : k = c.key
    · exact ⟨c, List.mem_cons_self, h.symm⟩
    · exact (ih (by simpa [h] using hk)).imp fun d hd => ⟨List.mem_cons_of_mem _ hd.1, hd.2⟩
  | cleanUp s c r _ _ _ ih =>
    rw [apply_cleanUp] at hk ⊢
    by_cases h : k = c.key
    · simp [h] at hk
    · exact exists_mem_erase (ih (by simpa [h] using hk)) (Ne.symm h)

theorem inv_tok {p0 : List (Nat × Nat)} {s : State} (h : Reach storageDeletes p0 s) (k : Nat)
    (hk : s.tok k = true) : ∃ c ∈ s.active, c.typ ≠ .dns ∧ c.key = k := by
  induction h using Reach.induct with
  | init => cases hk
  | present s c r _ _ ih =>
    rw [apply_present] at hk ⊢
    by_cases h : c.typ ≠ .dns ∧ k = c.key
    · exact ⟨c, List.mem_cons_self, h.1, h.2.symm⟩
    · exact (ih (by simpa [h] using hk)).imp fun d hd => ⟨List.mem_cons_of_mem _ hd.1, hd.2⟩
  | cleanUp s c r _ hp _ ih =>
    have hdel : r.del = true := hp
    rw [apply_cleanUp] at hk ⊢
    by_cases h : c.typ ≠ .dns ∧ k = c.key
    · simp [h, hdel] at hk
    · exact exists_mem_erase (ih (by simpa [h] using hk)) fun hc => h ⟨hc.1, hc.2.symm⟩

theorem hasRec_dns {c : Ch} (h : c.typ = .dns) (p : Nat × Nat) :
    hasRec p c = ((c.rname, c.rval) == p) := by
  simp [hasRec, h, Typ.isDNS]

theorem hasRec_not_dns {c : Ch} (h : c.typ ≠ .dns) (p : Nat × Nat) : hasRec p c = false := by
  cases hc : c.typ <;> simp_all [hasRec, Typ.isDNS]

theorem inv_recMem {P : Ev → Prop} {p0 : List (Nat × Nat)} {s : State} (h : Reach P p0 s)
    (p : Nat × Nat) : s.recMem.count p ≤ s.active.countP (hasRec p) := by
  induction h using Reach.induct with
  | init => exact Nat.le_refl 0
  | present s c r _ _ ih =>
    rw [apply_present]
    simp only [List.countP_cons]
    split
    · rename_i h
      rw [List.count_append, List.count_singleton, hasRec_dns h.1]
      exact Nat.add_le_add_right ih _
    · exact Nat.le_add_right_of_le ih
  | cleanUp s c r _ _ hm ih =>
    rw [← countP_erase_add (hasRec p) hm] at ih
    rw [apply_cleanUp]
    simp only
    split
    · rename_i ht
      rw [List.count_erase, ← hasRec_dns ht]
      exact Nat.sub_le_iff_le_add.mpr ih
    · rename_i ht
      -- `ih` is now `_ ≤ _ + if false = true then 1 else 0`, which reduces to the goal
      rwa [hasRec_not_dns ht] at ih

theorem inv_provider {p0 : List (Nat × Nat)} {s : State} (h : Reach providerDeletes p0 s) :
    s.provider.Perm (s.recMem ++ p0) := by
  induction h using Reach.induct with
  | init => exact .refl _
  | present s c r _ _ ih =>
    rw [apply_present]
    simp only
    split
    · rw [List.append_assoc]
      exact (ih.cons _).trans List.perm_middle.symm
    · exact ih
  | cleanUp s c r _ hp _ ih =>
    have hprov : r.prov = true := hp
    rw [apply_cleanUp]
    simp only [hprov, and_true]
    by_cases ht : c.typ = .dns
    · by_cases hin : (c.rname, c.rval) ∈ s.recMem
      · rw [if_pos ⟨ht, hin⟩, if_pos ht, ← List.erase_append_left _ hin]
        exact ih.erase _
      · rwa [if_neg (fun x => hin x.2), if_pos ht, List.erase_of_not_mem hin]
    · rwa [if_neg (fun x => ht x.1), if_neg ht]

end CM.Solvers
