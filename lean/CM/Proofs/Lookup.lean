import CM.Model.Lookup
import CM.Proofs.Cache
/-! Helper lemmas for C03: the wildcard loop in closed form, `MatchWildcard`, the selector,
and `getCertificateFromCache` as the first hit in a list of attempts. -/
namespace CM.Lookup
open CM.Cache

theorem candLoop_eq (ls pre : List (List Char)) :
    candLoop pre ls =
      (List.range ls.length).map fun i => joinDot (pre ++ List.replicate (i + 1) star ++ ls.drop (i + 1)) := by
  fun_induction candLoop pre ls
  next => rfl
  next pre l rest ih =>
    rw [ih, List.length_cons, List.range_succ_eq_map, List.map_cons, List.map_map]
    congr 1
    · simp
    · exact List.map_congr_left fun i _ => by simp [List.replicate_succ]

theorem mem_candidates (n w : Name) :
    w ∈ candidates n ↔ ∃ k, 1 ≤ k ∧ k ≤ (splitDot n).length ∧ w = wildAt n k := by
  unfold candidates wildAt
  simp only [candLoop_eq, List.mem_map, List.mem_range, List.nil_append]
  constructor
  · rintro ⟨i, hi, rfl⟩
    exact ⟨i + 1, Nat.le_add_left _ _, hi, rfl⟩
  · rintro ⟨k, h1, h2, rfl⟩
    exact ⟨k - 1, by omega, by rw [Nat.sub_add_cancel h1]⟩

theorem covers_iff_candidates (n : Name) (names : List Name) :
    covers n names ↔ ∃ w, w ∈ n :: candidates n ∧ w ∈ names := by
  constructor
  · rintro (h | ⟨k, h1, h2, h3⟩)
    · exact ⟨n, List.mem_cons_self, h⟩
    · exact ⟨wildAt n k, List.mem_cons_of_mem _ ((mem_candidates n _).mpr ⟨k, h1, h2, rfl⟩), h3⟩
  · rintro ⟨w, hw, hn⟩
    rcases List.mem_cons.mp hw with h | h
    · exact Or.inl (h ▸ hn)
    · obtain ⟨k, h1, h2, h3⟩ := (mem_candidates n w).mp h
      exact Or.inr ⟨k, h1, h2, h3 ▸ hn⟩

theorem mem_joinDot {c : Char} {ls : List (List Char)} (l : List Char) (hl : l ∈ ls) (hc : c ∈ l) :
    c ∈ joinDot ls := by
  fun_induction joinDot ls
  next => cases hl
  next a => exact List.mem_singleton.mp hl ▸ hc
  next a b r ih =>
    rcases List.mem_cons.mp hl with h | h
    · exact List.mem_append_left _ (h ▸ hc)
    · exact List.mem_append_right _ (List.mem_cons_of_mem _ (ih h))

theorem star_mem_of_mem_candLoop {w : Name} {ls pre : List (List Char)} (h : w ∈ candLoop pre ls) : '*' ∈ w := by
  rw [candLoop_eq] at h
  obtain ⟨i, _, rfl⟩ := List.mem_map.mp h
  exact mem_joinDot star (by simp [List.replicate_succ]) (by simp [star])

theorem mwLoop_iff (w : Name) (ls pre : List (List Char)) (hne : ∀ l ∈ ls, l ≠ []) :
    mwLoop w pre ls = true ↔ w ∈ candLoop pre ls := by
  fun_induction mwLoop w pre ls
  next => simp [candLoop]
  next => exact absurd rfl (hne [] List.mem_cons_self)
  next hj => simp [candLoop, hj]
  next hj ih =>
    rw [ih fun l h => hne l (List.mem_cons_of_mem _ h), candLoop, List.mem_cons]
    exact (or_iff_right fun e => hj e.symm).symm

theorem matchWildcard_iff (n w : Name) (hn : ∀ l ∈ splitDot n, l ≠ []) :
    matchWildcard n w = true ↔ w ∈ n :: candidates n := by
  rw [List.mem_cons]
  fun_cases matchWildcard n w
  next h => simp [h]
  next h1 h2 =>
    simp only [Bool.false_eq_true, false_iff, not_or]
    exact ⟨Ne.symm h1, fun h => h2 (star_mem_of_mem_candLoop h)⟩
  next h1 _ =>
    rw [or_iff_right (Ne.symm h1)]
    exact mwLoop_iff w (splitDot n) [] hn

/-- the selector's loop: the first supported-and-valid choice, else the last supported one, else `best`
(the first choice: `selectDefault_cons`) -/
theorem scan_eq (e : Env) (l : List Cert) (best : Cert) :
    scan e l best =
      (l.find? e.good).getD (((l.filter fun c => (e.view c.hash).supported).getLast?).getD best) := by
  fun_induction scan e l best
  next => rfl
  next c r best hs hv =>
    have hg : e.good c = true := by simp [Env.good, hs, hv]
    rw [List.find?_cons_of_pos hg]; rfl
  next c r best hs hv ih =>
    have hg : ¬ e.good c = true := by simp [Env.good, hv]
    rw [ih, List.find?_cons_of_neg hg, List.filter_cons_of_pos (by simp [hs]), List.getLast?_cons]; rfl
  next c r best hs ih =>
    have hg : ¬ e.good c = true := by simp [Env.good, hs]
    rw [ih, List.find?_cons_of_neg hg, List.filter_cons_of_neg (by simp [hs])]

/-- the fast path for a single choice returns what the loop would -/
theorem selectDefault_cons (e : Env) (c : Cert) (r : List Cert) :
    selectDefault e (c :: r) = some (scan e (c :: r) c) := by
  cases r with
  | nil =>
    unfold scan
    split
    · split <;> rfl
    · rfl
  | cons c1 r' => rfl

theorem selectDefault_none {e : Env} {l : List Cert} : selectDefault e l = none ↔ l = [] := by
  cases l with
  | nil => exact ⟨fun _ => rfl, fun _ => rfl⟩
  | cons c r => rw [selectDefault_cons]; exact ⟨nofun, nofun⟩

theorem selectDefault_spec {e : Env} {l : List Cert} {c : Cert} (h : selectDefault e l = some c) :
    c ∈ l ∧ ((∃ c', c' ∈ l ∧ e.good c' = true) → e.good c = true) := by
  cases l with
  | nil => cases h
  | cons c0 r =>
    rw [selectDefault_cons, scan_eq] at h
    cases h
    cases hf : (c0 :: r).find? e.good with
    | some c => exact ⟨List.mem_of_find?_eq_some hf, fun _ => List.find?_some hf⟩
    | none =>
      refine ⟨?_, fun ⟨c', hc', hg'⟩ => absurd hg' (List.find?_eq_none.mp hf c' hc')⟩
      cases hl : ((c0 :: r).filter fun c => (e.view c.hash).supported).getLast? with
      | none => exact List.mem_cons_self
      | some c => exact (List.mem_filter.mp (List.mem_of_getLast? hl)).1

/-- the index keys `getCertificateFromCache` tries, in order -/
def keysTried (cfg : Cfg) (h : Hello) : List Name :=
  (if h.sni = [] then h.conn.toList ++ cfg.defaultName.toList else h.sni :: candidates h.sni) ++
    cfg.fallbackName.toList

/-- `c` is a certificate of the cache (stored under its own hash) -/
def Cached (s : State) (c : Cert) : Prop := get? c.hash s.cache = some c

/-- where a selected certificate came from -/
inductive Origin (cfg : Cfg) (h : Hello) (key : Name) : How → Prop
  | ip : h.sni = [] → h.conn = some key → Origin cfg h key .matched
  | name : h.sni ≠ [] → key ∈ h.sni :: candidates h.sni → Origin cfg h key .matched
  | dflt : h.sni = [] → cfg.defaultName = some key → Origin cfg h key .defaulted
  | fallback : cfg.fallbackName = some key → Origin cfg h key .defaulted

/-- the same keys, each with what a hit on it counts as: `getCertificateFromCache` answers with
the first hit in this list (`fromCache_eq`) -/
def attempts (cfg : Cfg) (h : Hello) : List (Name × How) :=
  (if h.sni = [] then h.conn.toList.map (·, How.matched) ++ cfg.defaultName.toList.map (·, How.defaulted)
   else (h.sni :: candidates h.sni).map (·, How.matched)) ++
    cfg.fallbackName.toList.map (·, How.defaulted)

theorem firstMatch_eq (e : Env) (s : State) (ns : List Name) :
    firstMatch e s ns = ns.findSome? (selectCert e s) := by
  fun_induction firstMatch e s ns
  next => rfl
  next n r c hc => rw [List.findSome?_cons, hc]
  next n r hc ih => rw [List.findSome?_cons, hc, ih]

theorem tryName_eq (e : Env) (s : State) (o : Option Name) :
    tryName e s o = o.toList.findSome? (selectCert e s) := by
  cases o with
  | none => rfl
  | some n => exact List.findSome?_singleton.symm

theorem findSome?_tagged {α β τ : Type} (f : α → Option β) (t : τ) (l : List α) :
    (l.map (·, t)).findSome? (fun p => (f p.1).map (·, p.2)) = (l.findSome? f).map (·, t) := by
  rw [List.findSome?_map, List.map_findSome?]; rfl

theorem fromCache_eq (e : Env) (cfg : Cfg) (s : State) (h : Hello) :
    fromCache e cfg s h = (attempts cfg h).findSome? fun p => (selectCert e s p.1).map (·, p.2) := by
  unfold fromCache attempts
  split
  all_goals simp only [List.findSome?_append, findSome?_tagged, ← tryName_eq]
  · cases tryName e s h.conn <;> cases tryName e s cfg.defaultName <;> rfl
  · rw [← firstMatch_eq]
    cases firstMatch e s (h.sni :: candidates h.sni) <;> rfl

theorem origin_of_mem_attempts {cfg : Cfg} {h : Hello} {key : Name} {how : How}
    (hm : (key, how) ∈ attempts cfg h) : Origin cfg h key how := by
  unfold attempts at hm
  split at hm
  all_goals simp only [List.mem_append, List.mem_map, Option.mem_toList, Prod.mk.injEq] at hm
  · rename_i hs
    rcases hm with (⟨k, hk, rfl, rfl⟩ | ⟨k, hk, rfl, rfl⟩) | ⟨k, hk, rfl, rfl⟩
    · exact .ip hs hk
    · exact .dflt hs hk
    · exact .fallback hk
  · rename_i hs
    rcases hm with ⟨k, hk, rfl, rfl⟩ | ⟨k, hk, rfl, rfl⟩
    · exact .name hs hk
    · exact .fallback hk

theorem keysTried_eq (cfg : Cfg) (h : Hello) : keysTried cfg h = (attempts cfg h).map (·.1) := by
  unfold keysTried attempts
  split <;> simp [Function.comp_def]

theorem fromCache_some {e : Env} {cfg : Cfg} {s : State} {h : Hello} {c : Cert} {how : How}
    (hf : fromCache e cfg s h = some (c, how)) :
    ∃ key, selectCert e s key = some c ∧ Origin cfg h key how := by
  rw [fromCache_eq] at hf
  obtain ⟨⟨key, how'⟩, hm, hsel⟩ := List.exists_of_findSome?_eq_some hf
  simp only [Option.map_eq_some_iff, Prod.mk.injEq] at hsel
  obtain ⟨c', hc', rfl, rfl⟩ := hsel
  exact ⟨key, hc', origin_of_mem_attempts hm⟩

theorem fromCache_none {e : Env} {cfg : Cfg} {s : State} {h : Hello} :
    fromCache e cfg s h = none ↔ ∀ n, n ∈ keysTried cfg h → matching s n = [] := by
  rw [fromCache_eq, keysTried_eq, List.findSome?_eq_none_iff, List.forall_mem_map]
  simp only [Option.map_eq_none_iff, selectCert, selectDefault_none]

theorem loadStored_mem {st : List (Name × Cert)} {n : Name} {c : Cert} (h : loadStored st n = some c) :
    ∃ k, (k, c) ∈ st := by
  revert h
  fun_cases loadStored st n
  all_goals intro h
  next c' hget => cases h; exact ⟨_, mem_of_get? hget⟩
  next => exact ⟨_, mem_of_get? h⟩

theorem afterMiss_of_name {cfg : Cfg} {s : State} {h : Hello} {r : Req} {name : Name}
    (hname : requestName cfg h r = some name) (hq : qualifies name = true) (d : Option Cert) :
    afterMiss cfg s h r d =
      match (if almostFull s then loadStored r.stored name else none).or d with
      | some c => .ok c
      | none => .err := by
  unfold afterMiss
  rw [hname]
  simp only [hq, Bool.not_true, Bool.false_eq_true, if_false]
  cases (if almostFull s = true then loadStored r.stored name else none) <;> rfl

theorem afterMiss_err_of_bad {cfg : Cfg} {s : State} {h : Hello} {r : Req}
    (hbad : requestName cfg h r = none ∨ ∃ name, requestName cfg h r = some name ∧ qualifies name = false)
    (d : Option Cert) : afterMiss cfg s h r d = .err := by
  unfold afterMiss
  rcases hbad with h1 | ⟨name, h1, h2⟩
  · rw [h1]
  · rw [h1]; simp [h2]

/-- the certificate is the managed bundle stored for the request's name (or its wildcard form),
loaded because the cache is almost full (it may have been evicted) -/
def FromStorage (cfg : Cfg) (s : State) (h : Hello) (r : Req) (c : Cert) : Prop :=
  almostFull s = true ∧ ∃ name, requestName cfg h r = some name ∧ qualifies name = true ∧
    loadStored r.stored name = some c

theorem afterMiss_ok {cfg : Cfg} {s : State} {h : Hello} {r : Req} {d : Option Cert} {c : Cert}
    (ha : afterMiss cfg s h r d = .ok c) : FromStorage cfg s h r c ∨ d = some c := by
  revert ha
  fun_cases afterMiss cfg s h r d
  all_goals intro ha; cases ha
  next name hname hq hl =>
    split at hl
    · rename_i haf; exact .inl ⟨haf, name, hname, by simpa using hq, hl⟩
    · cases hl
  next => exact .inr rfl

theorem getCert_ok {e : Env} {cfg : Cfg} {s : State} {h : Hello} {r : Req} {c : Cert}
    (hg : getCert e cfg s h r = .ok c) :
    FromStorage cfg s h r c ∨ ∃ key how, Origin cfg h key how ∧ selectCert e s key = some c := by
  have hc : FromStorage cfg s h r c ∨ ∃ how, fromCache e cfg s h = some (c, how) := by
    revert hg
    fun_cases getCert e cfg s h r
    all_goals intro hg
    next c' hf => cases hg; exact Or.inr ⟨_, hf⟩
    next c' hf => exact (afterMiss_ok hg).imp_right fun h1 => by cases h1; exact ⟨_, hf⟩
    next => exact (afterMiss_ok hg).imp_right nofun
  refine hc.imp_right fun ⟨how, hf⟩ => ?_
  obtain ⟨key, hsel, ho⟩ := fromCache_some hf
  exact ⟨key, how, ho, hsel⟩

theorem getCert_of_not_matched {e : Env} {cfg : Cfg} {s : State} {h : Hello} {r : Req}
    (hnm : ∀ c, fromCache e cfg s h ≠ some (c, .matched)) :
    ∃ d, getCert e cfg s h r = afterMiss cfg s h r d := by
  fun_cases getCert e cfg s h r
  next c hf => exact absurd hf (hnm c)
  next => exact ⟨_, rfl⟩
  next => exact ⟨_, rfl⟩

theorem selectCert_cached {e : Env} {s : State} {n : Name} {c : Cert} (hI : Inv s)
    (h : selectCert e s n = some c) : Cached s c ∧ n ∈ c.names :=
  (mem_matching_iff hI n c).mp (selectDefault_spec h).1

theorem matching_eq_nil_iff {s : State} {n : Name} (hI : Inv s) :
    matching s n = [] ↔ ∀ c, Cached s c → n ∉ c.names := by
  rw [List.eq_nil_iff_forall_not_mem]
  exact forall_congr' fun c => (not_congr (mem_matching_iff hI n c)).trans not_and

theorem getCert_first_attempt {e : Env} {cfg : Cfg} {s : State} {h : Hello} {r : Req} {key : Name}
    {rest : List (Name × How)} (hI : Inv s) (hatt : attempts cfg h = (key, .matched) :: rest)
    (hex : ∃ c0, Cached s c0 ∧ key ∈ c0.names) :
    ∃ c, getCert e cfg s h r = .ok c ∧ Cached s c ∧ key ∈ c.names := by
  obtain ⟨c0, hc0, hn0⟩ := hex
  cases hsel : selectCert e s key with
  | none => exact absurd hn0 ((matching_eq_nil_iff hI).mp (selectDefault_none.mp hsel) c0 hc0)
  | some c =>
    have hf : fromCache e cfg s h = some (c, .matched) := by
      rw [fromCache_eq, hatt, List.findSome?_cons, hsel]; rfl
    refine ⟨c, ?_, selectCert_cached hI hsel⟩
    unfold getCert
    rw [hf]

end CM.Lookup
