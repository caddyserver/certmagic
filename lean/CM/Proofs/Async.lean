import CM.Model.Async
/-!
Lemmas for C19. Retry loop: the state in which iteration `k` is entered is a function of `k`
(`idxAt`, `enterAt`); `Run` says how a run is built from its iterations, and every fact about a run
is an induction over it. Job manager: `Submit` and `Move` say what a step does, `worker_move` what a
worker's move does to any weighted sum over the workers; `Inv` and the measure argument
`taken_bound` rest on these. `Issue`: `issue_cases`.
-/
namespace CM.Async

theorem cancelWins_some {i : RetryIn} {k now T ci : Nat} (h : cancelWins i k now T = some ci) :
    ∃ c, i.cancelAt = some c ∧ ci = max c now := by
  revert h
  fun_cases cancelWins i k now T with
  | case1 | case4 => exact nofun
  | case2 c hc | case3 c hc => exact fun h => ⟨c, hc, (Option.some.inj h).symm⟩

/-- a timer that wins after a positive wait fires no later than the cancellation: with both `c` and
`now` before `T` the cancellation case is ready first -/
theorem cancelWins_none {i : RetryIn} {k now T c : Nat} (h : cancelWins i k now T = none)
    (hc : i.cancelAt = some c) (hwait : now < T) : T ≤ c := by
  refine Nat.le_of_not_lt fun hcT => ?_
  simp [cancelWins, hc, Nat.max_lt.mpr ⟨hcT, hwait⟩] at h

theorem cancelWins_never {i : RetryIn} {k now T : Nat} (hc : i.cancelAt = none) :
    cancelWins i k now T = none := by
  unfold cancelWins; simp [hc]

/-- result and last outcome agree -/
def ResMatches (r : Res) (o : Outcome) : Prop :=
  (r = .ok ∧ o = .ok) ∨ (r = .canceledErr ∧ o = .canceledErr) ∨ (r = .noRetry ∧ o = .noRetry) ∨
  (r = .gaveUpErr ∧ o = .fail)

theorem ResMatches.final {r : Res} {o : Outcome} (h : ResMatches r o) :
    r ≠ .canceled ∧ r ≠ .outOfFuel := by
  rcases h with ⟨rfl, _⟩ | ⟨rfl, _⟩ | ⟨rfl, _⟩ | ⟨rfl, _⟩ <;> exact ⟨Res.noConfusion, Res.noConfusion⟩

theorem ResMatches.fail {r : Res} (h : ResMatches r .fail) : r = .gaveUpErr := by
  rcases h with ⟨_, h⟩ | ⟨_, h⟩ | ⟨_, h⟩ | ⟨h, _⟩
  · cases h
  · cases h
  · cases h
  · exact h

/-- `intervalIndex` when iteration `k` of the loop is entered -/
def idxAt (tbl : List Nat) : Nat → Option Nat
  | 0 => none
  | k + 1 => nextIdx tbl (idxAt tbl k)

/-- the instant at which iteration `k` is entered, all earlier attempts having failed -/
def enterAt (tbl : List Nat) (i : RetryIn) : Nat → Nat
  | 0 => 0
  | k + 1 => enterAt tbl i k + waitOf tbl (idxAt tbl k) + (i.script k).dur

/-- the instant at which attempt `k` starts; it ends at `enterAt tbl i (k + 1)` -/
def startAt (tbl : List Nat) (i : RetryIn) (k : Nat) : Nat := enterAt tbl i k + waitOf tbl (idxAt tbl k)

theorem idxAt_succ {tbl : List Nat} (hne : tbl ≠ []) (k : Nat) :
    idxAt tbl (k + 1) = some (min k (tbl.length - 1)) := by
  have hl : 0 < tbl.length := List.length_pos_iff.mpr hne
  induction k with
  | zero => simp only [idxAt, nextIdx, hl, if_true, Nat.zero_min]
  | succ k ih =>
    rw [idxAt, ih, nextIdx]
    by_cases h : k + 1 < tbl.length
    · rw [Nat.min_eq_left (Nat.le_sub_one_of_lt (Nat.lt_of_succ_lt h)), if_pos h,
        Nat.min_eq_left (Nat.le_sub_one_of_lt h)]
    · have h1 : tbl.length - 1 ≤ k := Nat.sub_le_of_le_add (Nat.le_of_not_lt h)
      rw [Nat.min_eq_right h1, Nat.min_eq_right (Nat.le_succ_of_le h1),
        if_neg (by rw [Nat.sub_add_cancel hl]; exact Nat.lt_irrefl _)]

theorem wait_succ {tbl : List Nat} (hne : tbl ≠ []) (k : Nat) :
    waitOf tbl (idxAt tbl (k + 1)) = tbl.getD (min k (tbl.length - 1)) 0 := by
  rw [idxAt_succ hne]; rfl

theorem wait_pos {tbl : List Nat} (hp : Positive tbl) (k : Nat) :
    0 < tbl.getD (min k (tbl.length - 1)) 0 := by
  have hj : min k (tbl.length - 1) < tbl.length :=
    Nat.lt_of_le_of_lt (Nat.min_le_right _ _) (Nat.sub_lt (List.length_pos_iff.mpr hp.1) Nat.one_pos)
  rw [← List.getElem_eq_getD (h := hj)]
  exact hp.2 _ (List.getElem_mem hj)

theorem le_enterAt {tbl : List Nat} (hp : Positive tbl) (i : RetryIn) (k : Nat) :
    k ≤ enterAt tbl i (k + 1) := by
  induction k with
  | zero => exact Nat.zero_le _
  | succ k ih =>
    rw [enterAt, wait_succ hp.1]
    exact Nat.le_trans (Nat.add_le_add ih (wait_pos hp k)) (Nat.le_add_right _ _)

/-- A run of the loop from iteration `k` on with fuel `f`: one constructor for each way an iteration
can end. -/
inductive Run (tbl : List Nat) (mx : Nat) (i : RetryIn) : Nat → Nat → RetryOut → Prop
  | outOfFuel {k} : Run tbl mx i 0 k ⟨[], .outOfFuel, enterAt tbl i k⟩
  | cancel {f k ci} : cancelWins i k (enterAt tbl i k) (startAt tbl i k) = some ci →
      Run tbl mx i (f + 1) k ⟨[], .canceled, ci⟩
  | final {f k r} : cancelWins i k (enterAt tbl i k) (startAt tbl i k) = none →
      ResMatches r (i.script k).out → (r = .gaveUpErr → mx ≤ enterAt tbl i (k + 1)) →
      Run tbl mx i (f + 1) k ⟨[(k, startAt tbl i k)], r, enterAt tbl i (k + 1)⟩
  | more {f k o} : cancelWins i k (enterAt tbl i k) (startAt tbl i k) = none →
      (i.script k).out = .fail → enterAt tbl i (k + 1) < mx → Run tbl mx i f (k + 1) o →
      Run tbl mx i (f + 1) k ⟨(k, startAt tbl i k) :: o.trace, o.res, o.ret⟩

theorem loop_run (tbl : List Nat) (mx : Nat) (i : RetryIn) : ∀ f k,
    Run tbl mx i f k (loop tbl mx i f k (idxAt tbl k) (enterAt tbl i k)) := by
  intro f
  induction f with
  | zero => intro k; exact .outOfFuel
  | succ f ih =>
    intro k
    rw [loop]
    fun_cases stepR tbl mx i k (idxAt tbl k) (enterAt tbl i k)
    · next _ ci hw => exact .cancel hw
    · next _ hw _ ho => exact .final hw (.inl ⟨rfl, ho⟩) Res.noConfusion
    · next _ hw _ ho => exact .final hw (.inr (.inl ⟨rfl, ho⟩)) Res.noConfusion
    · next _ hw _ ho => exact .final hw (.inr (.inr (.inl ⟨rfl, ho⟩))) Res.noConfusion
    · next _ hw _ ho hlt => exact .more hw ho hlt (ih (k + 1))
    · next _ hw _ ho hge => exact .final hw (.inr (.inr (.inr ⟨rfl, ho⟩))) (fun _ => Nat.le_of_not_lt hge)

theorem retryWith_run (tbl : List Nat) (mx : Nat) (i : RetryIn) :
    Run tbl mx i (mx + 2) 0 (retryWith tbl mx i) :=
  loop_run tbl mx i (mx + 2) 0

/-- entry `p` of a run from `k` is attempt `p + k`, started on schedule with the timer winning; if an
entry follows, it failed retryably and ended before `mx` -/
theorem Run.entry {tbl : List Nat} {mx : Nat} {i : RetryIn} {f k : Nat} {o : RetryOut}
    (h : Run tbl mx i f k o) : ∀ {p n t : Nat}, o.trace[p]? = some (n, t) →
    n = p + k ∧ t = startAt tbl i (p + k) ∧
    cancelWins i (p + k) (enterAt tbl i (p + k)) (startAt tbl i (p + k)) = none ∧
    ∀ x, o.trace[p + 1]? = some x →
      (i.script (p + k)).out = .fail ∧ enterAt tbl i (p + k + 1) < mx := by
  induction h with
  | outOfFuel | cancel => intro p n t hp; cases hp
  | final hw _ _ =>
    intro p n t hp
    cases p with
    | zero => cases hp; rw [Nat.zero_add]; exact ⟨rfl, rfl, hw, fun x hx => by cases hx⟩
    | succ p => cases hp
  | more hw ho hlt _ ih =>
    intro p n t hp
    cases p with
    | zero => cases hp; rw [Nat.zero_add]; exact ⟨rfl, rfl, hw, fun _ _ => ⟨ho, hlt⟩⟩
    | succ p =>
      rw [Nat.add_right_comm]
      exact ih hp

/-- no attempt starts after the instant of cancellation (positive table): the first starts at 0,
every later one after a positive wait that the cancellation did not cut short -/
theorem retryWith_start_le_cancel {tbl : List Nat} {mx : Nat} {i : RetryIn} (hp : Positive tbl)
    (c : Nat) (hc : i.cancelAt = some c) (p n t : Nat) (h : (retryWith tbl mx i).trace[p]? = some (n, t)) :
    t ≤ c := by
  obtain ⟨_, ht, hw, _⟩ := (retryWith_run tbl mx i).entry h
  rw [ht]
  cases p with
  | zero => exact Nat.zero_le c
  | succ p =>
    refine cancelWins_none hw hc ?_
    rw [startAt, wait_succ hp.1]
    exact Nat.lt_add_of_pos_right (wait_pos hp p)

/-- end of the last attempt of a trace, `now` if the trace is empty -/
def lastEndFrom (i : RetryIn) (now : Nat) (tr : List (Nat × Nat)) : Nat :=
  match tr.getLast? with
  | none => now
  | some (n, t) => t + (i.script n).dur

theorem lastEndFrom_cons (i : RetryIn) (now k T : Nat) (tr : List (Nat × Nat)) :
    lastEndFrom i now ((k, T) :: tr) = lastEndFrom i (T + (i.script k).dur) tr := by
  unfold lastEndFrom
  rw [List.getLast?_cons]
  cases tr.getLast? <;> rfl

theorem lastEnd_eq (i : RetryIn) (tr : List (Nat × Nat)) : lastEnd i tr = lastEndFrom i 0 tr := rfl

theorem lastEnd_of_getLast {i : RetryIn} {tr : List (Nat × Nat)} {n t : Nat}
    (hl : tr.getLast? = some (n, t)) : lastEnd i tr = t + (i.script n).dur := by
  rw [lastEnd_eq, lastEndFrom, hl]

/-- how the loop ends: result, instant of return, last outcome -/
abbrev EndsWell (mx : Nat) (i : RetryIn) (now : Nat) (o : RetryOut) : Prop :=
  (o.res = .canceled → ∃ c, i.cancelAt = some c ∧ o.ret = max c (lastEndFrom i now o.trace)) ∧
  (o.res ≠ .canceled → o.res ≠ .outOfFuel →
    o.ret = lastEndFrom i now o.trace ∧
    ∃ n t, o.trace.getLast? = some (n, t) ∧ ResMatches o.res (i.script n).out ∧
      (o.res = .gaveUpErr → mx ≤ t + (i.script n).dur))

theorem Run.ends {tbl : List Nat} {mx : Nat} {i : RetryIn} {f k : Nat} {o : RetryOut}
    (h : Run tbl mx i f k o) : EndsWell mx i (enterAt tbl i k) o := by
  induction h with
  | outOfFuel => exact ⟨Res.noConfusion, fun _ h => absurd rfl h⟩
  | cancel hw =>
    obtain ⟨c, hc, hci⟩ := cancelWins_some hw
    exact ⟨fun _ => ⟨c, hc, hci⟩, fun h => absurd rfl h⟩
  | @final _ k _ _ hm hg =>
    exact ⟨fun h => absurd h hm.final.1, fun _ _ => ⟨rfl, k, startAt tbl i k, rfl, hm, hg⟩⟩
  | more _ _ _ _ ih =>
    simp only [EndsWell, lastEndFrom_cons]
    refine ⟨ih.1, fun h1 h2 => ?_⟩
    obtain ⟨hr, n, t, hl, hm⟩ := ih.2 h1 h2
    exact ⟨hr, n, t, by rw [List.getLast?_cons, hl]; rfl, hm⟩

/-- An iteration that goes on to another has `k ≤ enterAt (k+1) < mx`, so fuel `mx + 1` suffices
(`retryWith` gives `mx + 2`). -/
theorem Run.fuel {tbl : List Nat} (hp : Positive tbl) {mx : Nat} {i : RetryIn} {f k : Nat}
    {o : RetryOut} (h : Run tbl mx i f k o) : k ≤ mx → mx < f + k → o.res ≠ .outOfFuel := by
  induction h with
  | outOfFuel =>
    intro h1 h2
    rw [Nat.zero_add] at h2
    exact absurd h1 (Nat.not_le.mpr h2)
  | cancel _ => intro _ _; exact Res.noConfusion
  | final _ hm _ => intro _ _; exact hm.final.2
  | @more f k o _ _ hlt _ ih =>
    intro _ h2
    exact ih (Nat.lt_of_le_of_lt (le_enterAt hp i k) hlt) (by omega)

theorem Run.length {tbl : List Nat} {mx : Nat} {i : RetryIn} {f k : Nat} {o : RetryOut}
    (h : Run tbl mx i f k o) : o.trace.length ≤ f := by
  induction h with
  | outOfFuel | cancel => exact Nat.zero_le _
  | final _ _ _ => exact Nat.succ_le_succ (Nat.zero_le _)
  | more _ _ _ _ ih => exact Nat.succ_le_succ ih

theorem afterCancel_false {cancel : Option Nat} {t : Nat} (h : ∀ c, cancel = some c → t ≤ c) :
    afterCancel cancel t = false := by
  fun_cases afterCancel cancel t
  · next c => exact decide_eq_false (Nat.not_lt.mpr (h c rfl))
  · rfl

theorem specGo_last {sc : Nat → Att} {cancel : Option Nat} {p t : Nat}
    (hc : afterCancel cancel t = false) : specGo sc cancel p [(p, t)] = none := by
  unfold specGo
  rw [if_neg (not_not_intro rfl), if_neg (by rw [hc]; exact Bool.noConfusion)]

theorem specGo_next {sc : Nat → Att} {cancel : Option Nat} {p t n' t' : Nat} {rest : List (Nat × Nat)}
    (hc : afterCancel cancel t = false) (hf : (sc p).out = .fail) (hlt : t + (sc p).dur < maxDur)
    (ht : t' = t + (sc p).dur + table.getD (min p (table.length - 1)) 0)
    (hmin : minute ≤ table.getD (min p (table.length - 1)) 0) :
    specGo sc cancel p ((p, t) :: (n', t') :: rest) = specGo sc cancel (p + 1) ((n', t') :: rest) := by
  rw [specGo]
  rw [if_neg (not_not_intro rfl), if_neg (by rw [hc]; exact Bool.noConfusion)]
  rw [if_neg (not_not_intro hf), if_neg (by omega), if_neg (not_not_intro ht), if_neg (Nat.not_le.mpr hlt)]

theorem specEnd_canceled {sc : Nat → Att} {c ret : Nat} {tr : List (Nat × Nat)}
    (h : ret = max c (lastEnd ⟨sc, some c, fun _ => false⟩ tr)) :
    specEnd sc (some c) tr .canceled ret = none :=
  if_pos h

theorem specEnd_final {sc : Nat → Att} {cancel : Option Nat} {tr : List (Nat × Nat)} {r : Res}
    {n t : Nat} (hl : tr.getLast? = some (n, t)) (hm : ResMatches r (sc n).out)
    (hg : r = .gaveUpErr → maxDur ≤ t + (sc n).dur) :
    specEnd sc cancel tr r (t + (sc n).dur) = none := by
  have hle : lastEnd ⟨sc, cancel, fun _ => false⟩ tr = t + (sc n).dur := lastEnd_of_getLast hl
  rcases hm with ⟨rfl, ho⟩ | ⟨rfl, ho⟩ | ⟨rfl, ho⟩ | ⟨rfl, ho⟩ <;>
    simp only [specEnd, hl, hle, ho, ne_eq, not_true_eq_false, if_false]
  -- giving up is the one result with a condition of its own
  exact if_pos (hg rfl)

theorem upd_same {α : Type} {f : Nat → α} {w : Nat} {v : α} : upd f w v w = v := if_pos rfl

theorem upd_other {α : Type} {f : Nat → α} {w x : Nat} {v : α} (h : x ≠ w) : upd f w v x = f x :=
  if_neg h

theorem sumW_upd_ge (g : WS → Nat) (f : Nat → WS) (w : Nat) (v : WS) (n : Nat) (h : n ≤ w) :
    sumW g (upd f w v) n = sumW g f n := by
  induction n with
  | zero => rfl
  | succ n ih =>
    simp only [sumW]
    rw [ih (Nat.le_of_succ_le h), upd_other (Nat.ne_of_lt h)]

theorem sumW_spawn (g : WS → Nat) (f : Nat → WS) (n : Nat) (v : WS) :
    sumW g (upd f n v) (n + 1) = sumW g f n + g v := by
  simp only [sumW]
  rw [sumW_upd_ge g f n v n (Nat.le_refl _), upd_same]

theorem sumW_upd_lt (g : WS → Nat) (f : Nat → WS) (w : Nat) (v : WS) (n : Nat) (h : w < n) :
    sumW g (upd f w v) n + g (f w) = sumW g f n + g v := by
  induction n with
  | zero => cases h
  | succ n ih =>
    by_cases hw : w = n
    · subst hw
      rw [sumW_spawn]
      exact Nat.add_right_comm _ _ _
    · simp only [sumW]
      rw [upd_other (fun h => hw h.symm), Nat.add_right_comm,
        ih (Nat.lt_of_le_of_ne (Nat.le_of_lt_succ h) hw), Nat.add_right_comm]

theorem sumW_pos {g : WS → Nat} {f : Nat → WS} (n : Nat) (h : 0 < sumW g f n) : ∃ w, w < n ∧ 0 < g (f w) := by
  induction n with
  | zero => cases h
  | succ n ih =>
    by_cases h1 : 0 < g (f n)
    · exact ⟨n, Nat.lt_succ_self n, h1⟩
    · rw [sumW, Nat.eq_zero_of_not_pos h1] at h
      obtain ⟨w, hw, hg⟩ := ih h
      exact ⟨w, Nat.lt_succ_of_lt hw, hg⟩

theorem le_sumW {g : WS → Nat} {f : Nat → WS} (n w : Nat) (h : w < n) : g (f w) ≤ sumW g f n := by
  induction n with
  | zero => cases h
  | succ n ih =>
    by_cases hw : w = n
    · subst hw; exact Nat.le_add_left _ _
    · exact Nat.le_trans (ih (Nat.lt_of_le_of_ne (Nat.le_of_lt_succ h) hw)) (Nat.le_add_right _ _)

/-- what `Submit` of the job `j` does: nothing if its name is taken; else the job is appended, and a
worker goroutine started unless `maxW` are active -/
inductive Submit (s : JM) (j : Job) : JM → Prop
  | dup : Submit s j s
  | spawn : ¬(j.name ≠ "" ∧ s.names j.name = true) → s.active < s.maxW →
      Submit s j { s with queue := s.queue ++ [j]
                          names := if j.name = "" then s.names else setName s.names j.name true
                          active := s.active + 1, nextW := s.nextW + 1, ws := upd s.ws s.nextW .idle }
  | enqueue : ¬(j.name ≠ "" ∧ s.names j.name = true) → ¬ s.active < s.maxW →
      Submit s j { s with queue := s.queue ++ [j]
                          names := if j.name = "" then s.names else setName s.names j.name true }

theorem step_submit {s s' : JM} {id : Nat} {name : String} (h : step s (.submit id name) = some s') :
    Submit s ⟨id, name⟩ s' := by
  by_cases hnd : name ≠ "" ∧ s.names name = true
  · cases h.symm.trans (if_pos hnd); exact .dup
  · by_cases hlt : s.active < s.maxW
    · cases h.symm.trans ((if_neg hnd).trans (if_pos hlt)); exact .spawn hnd hlt
    · cases h.symm.trans ((if_neg hnd).trans (if_neg hlt)); exact .enqueue hnd hlt

theorem Submit.frame {s s' : JM} {j : Job} (h : Submit s j s') :
    (∃ l, s'.queue = s.queue ++ l) ∧
    ∀ g : WS → Nat, g .idle = 0 → sumW g s'.ws s'.nextW = sumW g s.ws s.nextW := by
  cases h with
  | dup => exact ⟨⟨[], (List.append_nil _).symm⟩, fun _ _ => rfl⟩
  | spawn _ _ => exact ⟨⟨_, rfl⟩, fun g hg => (sumW_spawn g s.ws s.nextW .idle).trans (by rw [hg]; rfl)⟩
  | enqueue _ _ => exact ⟨⟨_, rfl⟩, fun _ _ => rfl⟩

/-- what a worker event does: worker `w` goes from `a` to `b`; `taken` is what it dequeues
(`done`: the job returns or panics) -/
inductive Move (s : JM) (w : Nat) : WS → WS → List Job → JM → Prop
  | take {j rest} : s.queue = j :: rest →
      Move s w .idle (.running j) [j] { s with queue := rest, ws := upd s.ws w (.running j) }
  | exit : s.queue = [] →
      Move s w .idle .off [] { s with active := s.active - 1, ws := upd s.ws w .off }
  | done {j} : Move s w (.running j) (.finishing j) [] { s with ws := upd s.ws w (.finishing j) }
  | release {j} : Move s w (.finishing j) .idle []
      { s with names := if j.name = "" then s.names else setName s.names j.name false
               ws := upd s.ws w .idle }

theorem takenJobs_cons {s s' : JM} {e : Ev} (h : step s e = some s') (es : List Ev) :
    takenJobs s (e :: es) =
      (match (generalizing := false) e, s.queue with
        | .take _, j :: _ => [j]
        | _, _ => []) ++ takenJobs s' es := by
  simp only [takenJobs, h]
  rfl

theorem step_worker {s s' : JM} {e : Ev} (he : e.isWorker = true) (h : step s e = some s') :
    ∃ w a b taken, s.ws w = a ∧ Move s w a b taken s' ∧
      ∀ es, takenJobs s (e :: es) = taken ++ takenJobs s' es := by
  have htk := takenJobs_cons h
  revert he h htk
  fun_cases step s e
  all_goals intro he; cases he
  all_goals intro h htk; cases h
  next j rest hq hws => rw [hq] at htk; exact ⟨_, _, _, _, hws, .take hq, htk⟩
  next hq hws => exact ⟨_, _, _, _, hws, .exit hq, htk⟩
  next j hws => exact ⟨_, _, _, _, hws, .done, htk⟩
  next j hws => exact ⟨_, _, _, _, hws, .done, htk⟩
  next j hws => exact ⟨_, _, _, _, hws, .release, htk⟩

/-- the inductive invariant of the job manager (for `maxConcurrentJobs = m`) -/
structure Inv (m : Nat) (s : JM) : Prop where
  maxW : s.maxW = m
  off : ∀ w, s.nextW ≤ w → s.ws w = .off
  act : s.active = sumW aliveW s.ws s.nextW
  live : 1 ≤ m → s.queue ≠ [] → 0 < s.active
  bound : s.active ≤ s.maxW
  noEmpty : s.names "" = false
  uniq : ∀ n, n ≠ "" → occ s n = if s.names n = true then 1 else 0

theorem inv_init (m : Nat) : Inv m (init m) := by
  refine ⟨rfl, fun _ _ => rfl, rfl, fun _ h => absurd rfl h, Nat.zero_le _, rfl, ?_⟩
  intro n _
  simp [occ, init, sumW]

theorem lt_nextW {m : Nat} {s : JM} (hi : Inv m s) {w : Nat} (h : s.ws w ≠ .off) : w < s.nextW :=
  Nat.lt_of_not_le (fun hle => h (hi.off w hle))

theorem names_set (nm : String → Bool) (x : String) (b : Bool) (n : String) :
    (if x = "" then nm else setName nm x b) n = if n = x ∧ x ≠ "" then b else nm n := by
  by_cases hx : x = ""
  · rw [if_pos hx, if_neg (fun h => h.2 hx)]
  · by_cases hn : n = x
    · rw [if_neg hx, if_pos ⟨hn, hx⟩, setName, if_pos hn]
    · rw [if_neg hx, if_neg (fun h => hn h.1), setName, if_neg hn]

theorem Inv.occ_le_one {m : Nat} {s : JM} (hi : Inv m s) {n : String} (hn : n ≠ "") : occ s n ≤ 1 := by
  rw [hi.uniq n hn]
  split
  · exact Nat.le_refl 1
  · exact Nat.zero_le 1

theorem inv_submit {m : Nat} {s s' : JM} {j : Job} (hi : Inv m s) (h : Submit s j s') : Inv m s' := by
  have hne : (if j.name = "" then s.names else setName s.names j.name true) "" = false := by
    rw [names_set, if_neg fun h => h.2 h.1.symm]
    exact hi.noEmpty
  -- the new job is the only one of its name; the other names are as they were
  have hu : ¬(j.name ≠ "" ∧ s.names j.name = true) → ∀ n, n ≠ "" →
      (s.queue ++ [j]).countP (fun j => j.name = n) + sumW (holdsW n) s.ws s.nextW =
        if (if j.name = "" then s.names else setName s.names j.name true) n = true then 1 else 0 := by
    intro hnd n hn
    rw [names_set, List.countP_append, List.countP_singleton, Nat.add_right_comm]
    by_cases hj : j.name = n
    · subst hj
      rw [if_pos (decide_eq_true rfl), if_pos (And.intro rfl hn), if_pos rfl]
      exact congrArg (· + 1) ((hi.uniq _ hn).trans (if_neg fun hb => hnd ⟨hn, hb⟩))
    · rw [if_neg (mt of_decide_eq_true hj), if_neg (mt And.left (Ne.symm hj))]
      exact hi.uniq n hn
  cases h with
  | dup => exact hi
  | spawn hnd hlt =>
    refine ⟨hi.maxW, fun w hw => ?_, ?_, fun _ _ => Nat.succ_pos _, hlt, hne, fun n hn => ?_⟩
    · exact (upd_other (Nat.ne_of_gt hw)).trans (hi.off w (Nat.le_of_succ_le hw))
    · exact (congrArg (· + 1) hi.act).trans (sumW_spawn aliveW s.ws s.nextW .idle).symm
    · exact (congrArg (_ + ·) (sumW_spawn (holdsW n) s.ws s.nextW .idle)).trans (hu hnd n hn)
  | enqueue hnd hge =>
    exact ⟨hi.maxW, hi.off, hi.act, fun h1 _ => Nat.lt_of_lt_of_le h1 (hi.maxW ▸ Nat.le_of_not_lt hge),
      hi.bound, hne, hu hnd⟩

/-- In a state satisfying the invariant the moved worker is one of the `nextW` started ones, so
no worker beyond `nextW` is touched and for every weight `g` the sum changes by `g b - g a`. -/
theorem worker_move {m : Nat} {s s' : JM} {e : Ev} (hi : Inv m s) (he : e.isWorker = true)
    (h : step s e = some s') :
    ∃ w a b taken, Move s w a b taken s' ∧
      (∀ x, s'.nextW ≤ x → s'.ws x = .off) ∧
      (∀ g, sumW g s'.ws s'.nextW + g a = sumW g s.ws s.nextW + g b) ∧
      ∀ es, takenJobs s (e :: es) = taken ++ takenJobs s' es := by
  obtain ⟨w, a, b, taken, hws, hmv, htk⟩ := step_worker he h
  have hw : w < s.nextW := lt_nextW hi (by rw [hws]; cases hmv <;> exact WS.noConfusion)
  have hs' : s'.ws = upd s.ws w b ∧ s'.nextW = s.nextW := by cases hmv <;> exact ⟨rfl, rfl⟩
  refine ⟨w, a, b, taken, hmv, ?_, ?_, htk⟩
  · intro x hx
    rw [hs'.2] at hx
    rw [hs'.1, upd_other (Nat.ne_of_gt (Nat.lt_of_lt_of_le hw hx))]
    exact hi.off x hx
  · intro g
    rw [hs'.1, hs'.2, ← hws]
    exact sumW_upd_lt g s.ws w b s.nextW hw

theorem inv_worker {m : Nat} {s s' : JM} {e : Ev} (hi : Inv m s) (he : e.isWorker = true)
    (h : step s e = some s') : Inv m s' := by
  obtain ⟨w, a, b, taken, hmv, hoff, hsum, _⟩ := worker_move hi he h
  have hact := hsum aliveW
  rw [← hi.act] at hact
  cases hmv with
  | @take j rest hq =>
    refine ⟨hi.maxW, hoff, (Nat.add_right_cancel hact).symm,
      fun h1 _ => hi.live h1 (by rw [hq]; exact List.cons_ne_nil _ _), hi.bound, hi.noEmpty, ?_⟩
    -- the job goes from the queue to the worker
    intro n hn
    have := hsum (holdsW n)
    have hu := hi.uniq n hn
    unfold occ at hu
    rw [hq, List.countP_cons] at hu
    simp only [holdsW, decide_eq_true_eq] at this hu
    show rest.countP _ + sumW (holdsW n) (upd s.ws w (.running j)) s.nextW =
      if s.names n = true then 1 else 0
    omega
  | exit hq =>
    refine ⟨hi.maxW, hoff, (Nat.eq_sub_of_add_eq hact).symm, fun _ h => absurd hq h,
      Nat.le_trans (Nat.sub_le _ _) hi.bound, hi.noEmpty, ?_⟩
    -- an idle worker holds no name, nor does one that is off
    intro n hn
    rw [← hi.uniq n hn]
    exact congrArg (s.queue.countP _ + ·) (Nat.add_right_cancel (hsum (holdsW n)))
  | done =>
    refine ⟨hi.maxW, hoff, (Nat.add_right_cancel hact).symm, hi.live, hi.bound, hi.noEmpty, ?_⟩
    -- the worker holds the job's name before and after
    intro n hn
    rw [← hi.uniq n hn]
    exact congrArg (s.queue.countP _ + ·) (Nat.add_right_cancel (hsum (holdsW n)))
  | @release j =>
    refine ⟨hi.maxW, hoff, (Nat.add_right_cancel hact).symm, hi.live, hi.bound, ?_, ?_⟩
    · show (if j.name = "" then s.names else setName s.names j.name false) "" = false
      rw [names_set, if_neg (fun h => h.2 h.1.symm)]
      exact hi.noEmpty
    · intro n hn
      have hrel : sumW (holdsW n) (upd s.ws w .idle) s.nextW + (if j.name = n then 1 else 0) =
          sumW (holdsW n) s.ws s.nextW := hsum (holdsW n)
      show s.queue.countP _ + sumW (holdsW n) (upd s.ws w .idle) s.nextW =
        if (if j.name = "" then s.names else setName s.names j.name false) n = true then 1 else 0
      rw [names_set]
      by_cases hj : j.name = n
      · -- the released name: the job that ended was its only holder
        have := hi.occ_le_one hn
        unfold occ at this
        rw [if_pos hj] at hrel
        rw [if_pos (And.intro hj.symm (hj ▸ hn))]
        show _ = 0
        omega
      · rw [if_neg hj] at hrel
        rw [if_neg (mt And.left (Ne.symm hj)), ← hi.uniq n hn]
        exact congrArg (_ + ·) hrel

theorem inv_step {m : Nat} {s s' : JM} {e : Ev} (hi : Inv m s) (h : step s e = some s') :
    Inv m s' := by
  cases e with
  | submit id name => exact inv_submit hi (step_submit h)
  | _ => exact inv_worker hi rfl h

theorem inv_reachable {m : Nat} {s : JM} (hr : Reachable m s) : Inv m s := by
  induction hr with
  | init => exact inv_init m
  | step e _ h ih => exact inv_step ih h

theorem reachable_run {m : Nat} {s : JM} (hr : Reachable m s) :
    ∀ (es : List Ev) (s' : JM), run s es = some s' → Reachable m s' := by
  intro es s' h
  fun_induction run s es
  · cases h; exact hr
  · cases h
  · next s e es s1 hs ih => exact ih (Reachable.step e hr hs) h

/-- no name is stuck -/
theorem Inv.free_of_occ {m : Nat} {s : JM} (hi : Inv m s) {n : String} (h0 : occ s n = 0) :
    s.names n = false := by
  by_cases hn : n = ""
  · rw [hn]; exact hi.noEmpty
  · refine Bool.eq_false_iff.mpr fun hb => ?_
    have := hi.uniq n hn
    rw [h0, if_pos hb] at this
    cases this

theorem submit_free {s : JM} {n : String} (id : Nat) (hf : s.names n = false) :
    ∃ s', step s (.submit id n) = some s' ∧ s'.queue = s.queue ++ [⟨id, n⟩] := by
  have hnd : ¬(n ≠ "" ∧ s.names n = true) := fun h => Bool.noConfusion (hf.symm.trans h.2)
  by_cases hlt : s.active < s.maxW
  · exact ⟨_, (if_neg hnd).trans (if_pos hlt), rfl⟩
  · exact ⟨_, (if_neg hnd).trans (if_neg hlt), rfl⟩

theorem holds_one {m : Nat} {s : JM} (hi : Inv m s) {w : Nat} {j : Job} {n : String}
    (hw : s.ws w = .running j ∨ s.ws w = .finishing j) (hj : j.name = n) :
    w < s.nextW ∧ holdsW n (s.ws w) = 1 := by
  rcases hw with h | h <;>
    exact ⟨lt_nextW hi (by rw [h]; exact WS.noConfusion), by rw [h, holdsW, if_pos hj]⟩

theorem two_le_countP {α : Type} {p : α → Bool} {l : List α} {a b : Nat} {x y : α} (hab : a < b)
    (ha : l[a]? = some x) (hb : l[b]? = some y) (hx : p x = true) (hy : p y = true) :
    2 ≤ l.countP p := by
  -- cut the list at `b`: `x` lies before the cut, `y` is the first element after it
  rw [← List.take_append_drop b l, List.countP_append]
  have h1 : x ∈ l.take b := List.mem_of_getElem? ((List.getElem?_take_of_lt hab).trans ha)
  have h2 : y ∈ l.drop b := List.mem_of_getElem? (i := 0) (List.getElem?_drop.trans hb)
  exact Nat.add_le_add (List.countP_pos_iff.mpr ⟨x, h1, hx⟩) (List.countP_pos_iff.mpr ⟨y, h2, hy⟩)

theorem countP_le_one_unique {α : Type} {p : α → Bool} {l : List α} (hc : l.countP p ≤ 1)
    (a b : Nat) (x y : α) (ha : l[a]? = some x) (hb : l[b]? = some y) (hx : p x = true)
    (hy : p y = true) : a = b := by
  rcases Nat.lt_trichotomy a b with h | h | h
  · exact absurd (two_le_countP h ha hb hx hy) (by omega)
  · exact h
  · exact absurd (two_le_countP h hb ha hy hx) (by omega)

/-- the measure argument: a worker event on a non-empty queue takes its head or leaves the worker
with less work to do — dequeuing counts 3, the two steps a taken job then needs plus one -/
theorem Move.progress {s s' : JM} {w : Nat} {a b : WS} {taken : List Job}
    (h : Move s w a b taken s') (hq : s.queue ≠ []) :
    s.queue = taken ++ s'.queue ∧ workW b < workW a + 3 * taken.length := by
  cases h with
  | take hq' => exact ⟨hq', (by decide : 2 < 3)⟩
  | exit hq' => exact absurd hq' hq
  | done => exact ⟨rfl, (by decide : 1 < 2)⟩
  | release => exact ⟨rfl, (by decide : 0 < 1)⟩

/-- The measure theorem behind `C19_jobs_run`: `mu s p` bounds the worker events that can happen
before the job at queue position `p` is dequeued, and it is dequeued as the `p`-th from here (FIFO).
Every worker event takes the head of the queue or lowers `mu` (`Move.progress`); submissions only
append and leave `mu` as it is. -/
theorem taken_bound {m : Nat} {s : JM} (hi : Inv m s) (p : Nat) (j : Job) (es : List Ev) (s' : JM)
    (hq : s.queue[p]? = some j) (hr : run s es = some s') (hmu : mu s p < workerEvents es) :
    (takenJobs s es)[p]? = some j := by
  fun_induction run s es generalizing p with
  | case1 => exact absurd hmu (Nat.not_lt_zero _)
  | case2 => cases hr
  | case3 s e es s1 hs ih =>
    have hi1 := inv_step hi hs
    have hp : p < s.queue.length := (List.getElem?_eq_some_iff.mp hq).1
    unfold mu at hmu
    cases he : e.isWorker with
    | true =>
      obtain ⟨w, a, b, taken, hmv, -, hsum, htk⟩ := worker_move hi he hs
      obtain ⟨hqe, hlt⟩ := hmv.progress (List.ne_nil_of_length_pos (Nat.zero_lt_of_lt hp))
      rw [htk]
      rw [hqe] at hq
      by_cases hpt : p < taken.length
      · rw [List.getElem?_append_left hpt] at hq ⊢
        exact hq
      · obtain ⟨p', rfl⟩ := Nat.exists_eq_add_of_le (Nat.le_of_not_lt hpt)
        rw [List.getElem?_append_right (Nat.le_add_right _ _), Nat.add_sub_cancel_left] at hq ⊢
        refine ih hi1 _ hq hr ?_
        have := hsum workW
        rw [workerEvents, List.countP_cons_of_pos he] at hmu
        show 3 * p' + _ < List.countP Ev.isWorker es
        omega
    | false =>
      cases e <;> cases he  -- only `submit` is left
      obtain ⟨⟨l, hl⟩, hsum⟩ := (step_submit hs).frame
      rw [takenJobs_cons hs]
      refine ih hi1 p ?_ hr ?_
      · rw [hl]
        exact (List.getElem?_append_left hp).trans hq
      · unfold mu
        rw [hsum workW rfl]
        exact hmu

theorem live_worker {m : Nat} (hm : 1 ≤ m) {s : JM} (hi : Inv m s) (hq : s.queue ≠ []) :
    ∃ w, w < s.nextW ∧ s.ws w ≠ .off := by
  obtain ⟨w, hw, hg⟩ := sumW_pos _ (hi.act ▸ hi.live hm hq)
  exact ⟨w, hw, fun h => by rw [h] at hg; exact absurd hg (Nat.lt_irrefl 0)⟩

theorem worker_enabled {m : Nat} (hm : 1 ≤ m) {s : JM} (hi : Inv m s) (hq : s.queue ≠ []) :
    ∃ e, e.isWorker = true ∧ (step s e).isSome = true := by
  obtain ⟨w, _, hoff⟩ := live_worker hm hi hq
  cases hws : s.ws w with
  | off => exact absurd hws hoff
  | idle =>
    refine ⟨.take w, rfl, ?_⟩
    cases hqq : s.queue with
    | nil => exact absurd hqq hq
    | cons j rest => simp [step, hws, hqq]
  | running j => exact ⟨.jobReturn w true, rfl, by simp [step, hws]⟩
  | finishing j => exact ⟨.release w, rfl, by simp [step, hws]⟩

theorem doIssue_zero (i : IssueIn) :
    doIssue i 0 = { dir := prodDir i, throttled := true, usingTest := usingTestCA i (prodDir i) } := by
  simp [doIssue, directory]

theorem doIssue_test (i : IssueIn) {a : Nat} (ha : a > 0) (ht : i.testCA ≠ "") :
    doIssue i a = { dir := i.testCA, throttled := false, usingTest := true } := by
  simp [doIssue, directory, usingTestCA, ha, ht]

theorem doIssue_notest (i : IssueIn) {a : Nat} (ha : a > 0) (ht : i.testCA = "") :
    doIssue i a = { dir := prodDir i, throttled := false, usingTest := false } := by
  simp [doIssue, directory, usingTestCA, ha, ht]

/-- The ways `Issue` goes: the first order fails; it succeeds and is all there is; or — on a retry
that went to a test CA which is not the CA — it succeeds and a second order goes to production. -/
theorem issue_cases (i : IssueIn) :
    (i.first ≠ .ok ∧
      issue i = { calls := [doIssue i i.attempts], cert := none, err := .retryable }) ∨
    (i.first = .ok ∧ ¬(i.attempts > 0 ∧ i.testCA ≠ "" ∧ i.ca ≠ i.testCA) ∧
      issue i = { calls := [doIssue i i.attempts], cert := some (doIssue i i.attempts).dir, err := .none }) ∨
    (i.first = .ok ∧ (i.attempts > 0 ∧ i.testCA ≠ "" ∧ i.ca ≠ i.testCA) ∧
      issue i = { calls := [doIssue i i.attempts, doIssue i 0]
                  cert := if i.second = .ok then some (prodDir i) else none
                  err := match i.second with
                    | .ok => .none
                    | .rateLimited => .retryable
                    | .err => .noRetry }) := by
  unfold issue
  cases i.first with
  | err | rateLimited => exact .inl ⟨nofun, rfl⟩
  | ok =>
    refine .inr ?_
    dsimp only
    by_cases hc : i.attempts > 0 ∧ i.testCA ≠ "" ∧ i.ca ≠ i.testCA
    · -- with a test CA the retry's order goes there
      rw [if_pos ⟨decide_eq_true hc.1, by rw [doIssue_test i hc.1 hc.2.1], hc.2.2⟩, doIssue_zero]
      refine .inr ⟨rfl, hc, ?_⟩
      cases i.second <;> simp only [reduceCtorEq, reduceIte]
    · -- without one it goes to production
      rw [if_neg fun ⟨h1, h2, h3⟩ => hc ⟨of_decide_eq_true h1,
        fun ht => (by rw [doIssue_notest i (of_decide_eq_true h1) ht] at h2; cases h2), h3⟩]
      exact .inl ⟨rfl, hc, rfl⟩

end CM.Async
