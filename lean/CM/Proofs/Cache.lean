import CM.Model.Cache
/-! Lemmas for C12: association lists as maps, the two index loops as one update (`upd`), `Inv` for
the building blocks of the operations and for every step, the executable check. -/
namespace CM.Cache

section AL
variable {α β : Type} [DecidableEq α]

@[simp] theorem get?_nil (k : α) : get? k ([] : List (α × β)) = none := rfl

theorem get?_cons (k k' : α) (v : β) (r : List (α × β)) :
    get? k ((k', v) :: r) = if k' = k then some v else get? k r := rfl

@[simp] theorem erase_nil (k : α) : erase k ([] : List (α × β)) = [] := rfl

theorem erase_cons (k k' : α) (v : β) (r : List (α × β)) :
    erase k ((k', v) :: r) = if k' = k then erase k r else (k', v) :: erase k r := by
  by_cases h : k' = k <;> simp [erase, h]

theorem get?_erase (k k' : α) (l : List (α × β)) :
    get? k' (erase k l) = if k' = k then none else get? k' l := by
  induction l with
  | nil => simp
  | cons p r ih =>
    obtain ⟨k₂, v⟩ := p
    rw [erase_cons, get?_cons]
    by_cases h2 : k₂ = k
    · rw [if_pos h2, ih]
      by_cases h : k' = k
      · rw [if_pos h, if_pos h]
      · rw [if_neg h, if_neg h, if_neg (fun e => h (e.symm.trans h2))]
    · rw [if_neg h2, get?_cons, ih]
      by_cases h : k₂ = k'
      · rw [if_pos h, if_neg (h ▸ h2), if_pos h]
      · rw [if_neg h, if_neg h]

theorem get?_put (k k' : α) (v : β) (l : List (α × β)) :
    get? k' (put k v l) = if k' = k then some v else get? k' l := by
  rw [put, get?_cons, get?_erase]
  by_cases h : k = k'
  · simp [h]
  · simp [h, Ne.symm h]

theorem get?_put_self {k : α} {v : β} {l : List (α × β)} : get? k (put k v l) = some v :=
  (get?_put k k v l).trans (if_pos rfl)

theorem forall_get?_erase {P : α → β → Prop} {l : List (α × β)} {k : α}
    (h : ∀ k' v, get? k' l = some v → P k' v) : ∀ k' v, get? k' (erase k l) = some v → P k' v := by
  intro k' v hg
  rw [get?_erase] at hg
  split at hg
  · cases hg
  · exact h k' v hg

theorem forall_get?_put {P : α → β → Prop} {l : List (α × β)} {k : α} {v : β}
    (h : ∀ k' v', get? k' l = some v' → P k' v') (hkv : P k v) :
    ∀ k' v', get? k' (put k v l) = some v' → P k' v' := by
  intro k' v' hg
  rw [get?_put] at hg
  split at hg
  · rename_i e
    cases hg
    exact e ▸ hkv
  · exact h k' v' hg

theorem mem_of_get? {k : α} {v : β} {l : List (α × β)} (h : get? k l = some v) : (k, v) ∈ l := by
  revert h
  fun_induction get? k l
  all_goals intro h
  next => cases h
  next => cases h; exact List.mem_cons_self
  next ih => exact List.mem_cons_of_mem _ (ih h)

theorem get?_none_of_not_mem_keys {k : α} {l : List (α × β)} (h : k ∉ keys l) : get? k l = none := by
  cases hg : get? k l with
  | none => rfl
  | some v => exact absurd (List.mem_map_of_mem (mem_of_get? hg)) h

theorem get?_of_mem_nodup {k : α} {v : β} {l : List (α × β)} (hn : (keys l).Nodup) (h : (k, v) ∈ l) :
    get? k l = some v := by
  induction l with
  | nil => simp at h
  | cons p r ih =>
    obtain ⟨k', v'⟩ := p
    have hn' := List.nodup_cons.mp hn
    rw [get?_cons]
    rcases List.mem_cons.mp h with h | h
    · cases h; exact if_pos rfl
    · have hk : k ∈ keys r := List.mem_map_of_mem h
      rw [if_neg (fun e : k' = k => hn'.1 (e ▸ hk))]
      exact ih hn'.2 h

theorem keys_erase (k : α) (l : List (α × β)) :
    keys (erase k l) = (keys l).filter (fun x => decide (x ≠ k)) :=
  (List.filter_map (f := Prod.fst) (p := fun x => decide (x ≠ k)) (l := l)).symm

theorem nodup_erase {l : List (α × β)} {k : α} (h : (keys l).Nodup) : (keys (erase k l)).Nodup := by
  rw [keys_erase]; exact List.Pairwise.filter _ h

theorem nodup_put {l : List (α × β)} {k : α} {v : β} (h : (keys l).Nodup) : (keys (put k v l)).Nodup := by
  refine List.nodup_cons.mpr ⟨?_, nodup_erase h⟩
  show k ∉ keys (erase k l)
  rw [keys_erase]; simp

theorem length_erase_le {k : α} {l : List (α × β)} : (erase k l).length ≤ l.length :=
  List.length_filter_le _ _

theorem length_erase_lt {k : α} {v : β} {l : List (α × β)} (h : get? k l = some v) :
    (erase k l).length < l.length :=
  List.length_filter_lt_length_iff_exists.mpr ⟨(k, v), mem_of_get? h, by simp⟩

end AL

/-- what both index loops do for one name: `g` on its entry, the key deleted if nothing is left -/
def upd (g : List Hash → List Hash) (idx : List (Name × List Hash)) (n : Name) : List (Name × List Hash) :=
  if g (idxGet idx n) = [] then erase n idx else put n (g (idxGet idx n)) idx

theorem unindex_eq_upd (h : Hash) : unindex h = upd (List.filter (fun x => decide (x ≠ h))) := rfl

theorem addIndex_eq_upd (h : Hash) : addIndex h = upd (· ++ [h]) :=
  funext fun idx => funext fun n => (if_neg (by simp)).symm

theorem idxGet_upd (g : List Hash → List Hash) (idx : List (Name × List Hash)) (m n : Name) :
    idxGet (upd g idx m) n = if n = m then g (idxGet idx n) else idxGet idx n := by
  unfold upd
  split
  · rename_i hg
    simp only [idxGet, get?_erase] at hg ⊢
    split
    · rename_i e; rw [e, hg]; rfl
    · rfl
  · simp only [idxGet, get?_put]
    split
    · rename_i e; rw [e]; rfl
    · rfl

structure IdxOK (idx : List (Name × List Hash)) : Prop where
  nodup : (keys idx).Nodup
  noEmpty : ∀ n l, get? n idx = some l → l ≠ []

theorem idxOK_upd {g : List Hash → List Hash} {idx : List (Name × List Hash)} (m : Name) (hi : IdxOK idx) :
    IdxOK (upd g idx m) := by
  unfold upd
  split
  · exact ⟨nodup_erase hi.nodup, forall_get?_erase hi.noEmpty⟩
  · rename_i hne
    exact ⟨nodup_put hi.nodup, forall_get?_put hi.noEmpty hne⟩

theorem idxOK_foldl_upd {g : List Hash → List Hash} {idx : List (Name × List Hash)} (names : List Name)
    (hi : IdxOK idx) : IdxOK (names.foldl (upd g) idx) :=
  List.foldlRecOn names _ hi fun _ h m _ => idxOK_upd m h

theorem idxGet_foldl_unindex (h : Hash) (names : List Name) (idx : List (Name × List Hash)) (n : Name) :
    idxGet (names.foldl (unindex h) idx) n =
      if n ∈ names then (idxGet idx n).filter (fun x => decide (x ≠ h)) else idxGet idx n := by
  fun_induction List.foldl (unindex h) idx names
  next => simp
  next idx m ms ih =>
    rw [ih, unindex_eq_upd, idxGet_upd]
    by_cases h1 : n = m
    · subst h1
      simp [List.filter_filter]
    · simp [h1]

theorem idxGet_foldl_addIndex (h : Hash) (names : List Name) (idx : List (Name × List Hash)) (n : Name) :
    idxGet (names.foldl (addIndex h) idx) n = idxGet idx n ++ List.replicate (names.count n) h := by
  fun_induction List.foldl (addIndex h) idx names
  next => simp
  next idx m ms ih =>
    rw [ih, addIndex_eq_upd, idxGet_upd]
    by_cases h1 : n = m
    · subst h1
      simp [List.count_cons_self, List.replicate_succ]
    · simp [h1, Ne.symm h1]

theorem count_filter_ne (h h' : Hash) (l : List Hash) :
    (l.filter (fun x => decide (x ≠ h))).count h' = if h' = h then 0 else l.count h' := by
  split
  · rename_i e
    rw [e, List.count_eq_zero]
    simp
  · rename_i hne
    exact List.count_filter (by simpa using hne)

/-- the names of the cached certificate `h` (`[]` if none): what `Inv.agree` counts against -/
def namesOf (cache : List (Hash × Cert)) (h : Hash) : List Name := ((get? h cache).map Cert.names).getD []

theorem namesOf_of_get? {cache : List (Hash × Cert)} {h : Hash} {c : Cert} (hg : get? h cache = some c) :
    namesOf cache h = c.names := by
  unfold namesOf; rw [hg]; rfl

theorem namesOf_of_none {cache : List (Hash × Cert)} {h : Hash} (hg : get? h cache = none) :
    namesOf cache h = [] := by
  unfold namesOf; rw [hg]; rfl

theorem namesOf_erase (k h : Hash) (cache : List (Hash × Cert)) :
    namesOf (erase k cache) h = if h = k then [] else namesOf cache h := by
  unfold namesOf
  rw [get?_erase]
  split <;> rfl

theorem namesOf_put (k h : Hash) (c : Cert) (cache : List (Hash × Cert)) :
    namesOf (put k c cache) h = if h = k then c.names else namesOf cache h := by
  unfold namesOf
  rw [get?_put]
  split <;> rfl

theorem agree_iff {s : State} {n : Name} {h : Hash} :
    ((hashesOf s n).count h = match get? h s.cache with
      | some c => c.names.count n
      | none => 0) ↔ (idxGet s.index n).count h = (namesOf s.cache h).count n := by
  unfold namesOf
  cases get? h s.cache <;> exact Iff.rfl

theorem Inv.count_eq {s : State} (hI : Inv s) (n : Name) (h : Hash) :
    (idxGet s.index n).count h = (namesOf s.cache h).count n :=
  agree_iff.mp (hI.agree n h)

theorem agrees_iff {s : State} {c : Cert} :
    agrees s c = true ↔ ∀ e, get? c.hash s.cache = some e → e.names = c.names := by
  unfold agrees
  cases get? c.hash s.cache <;> simp

theorem agrees_of_get? {s : State} {h : Hash} {e : Cert} (hI : Inv s) (hg : get? h s.cache = some e) :
    agrees s e = true := by
  refine agrees_iff.mpr fun e' hg' => ?_
  rw [(hI.keyHash h e hg).1, hg] at hg'
  cases hg'; rfl

/-- what `Cache.Remove` passes to `removeCertificate` -/
theorem agrees_cached {s : State} (h : Hash) (hI : Inv s) :
    agrees s ((get? h s.cache).getD zeroCert) = true := by
  cases hg : get? h s.cache with
  | some e => exact agrees_of_get? hI hg
  | none =>
    -- Go's zero certificate has the empty hash, which is never a key
    exact agrees_iff.mpr fun e he => absurd rfl (hI.keyHash "" e he).2

theorem inv_init (cap : Nat) : Inv (init cap) := by
  refine ⟨?_, ?_, ?_, ?_, ?_, ?_⟩ <;> simp [init, keys, hashesOf, idxGet]

theorem inv_removeCert {s : State} {c : Cert} (hI : Inv s) (ha : agrees s c = true) :
    Inv (removeCert c s) := by
  have hidx : IdxOK (c.names.foldl (unindex c.hash) s.index) :=
    idxOK_foldl_upd c.names ⟨hI.nodupI, hI.noEmpty⟩
  refine ⟨nodup_erase hI.nodupC, hidx.nodup, forall_get?_erase hI.keyHash, ?_, hidx.noEmpty, ?_⟩
  · intro n h
    refine agree_iff.mpr ?_
    simp only [removeCert]
    rw [idxGet_foldl_unindex, namesOf_erase]
    by_cases hh : h = c.hash
    · -- nothing is left of `c.hash`: a mention under a name that is not one of `c`'s would be
      -- a name of the cached certificate, whose names are `c`'s
      subst hh
      rw [if_pos rfl]
      split
      · rw [count_filter_ne, if_pos rfl]; rfl
      · rename_i hn
        rw [hI.count_eq]
        cases hg : get? c.hash s.cache with
        | none => rw [namesOf_of_none hg]
        | some e => rw [namesOf_of_get? hg, agrees_iff.mp ha e hg]; exact List.count_eq_zero.mpr hn
    · rw [if_neg hh, ← hI.count_eq]
      split
      · rw [count_filter_ne, if_neg hh]
      · rfl
  · intro hc
    exact Nat.le_trans length_erase_le (hI.capOK hc)

theorem get?_removeCert (h : Hash) (c : Cert) (s : State) :
    get? h (removeCert c s).cache = if h = c.hash then none else get? h s.cache :=
  get?_erase c.hash h s.cache

theorem length_removeCert_le (c : Cert) (s : State) : (removeCert c s).cache.length ≤ s.cache.length :=
  length_erase_le

theorem cap_removeCert (c : Cert) (s : State) : (removeCert c s).cap = s.cap := rfl

/-- `c` as a new entry (`added` = its names) or in place of one with the same names (`added = []`) -/
theorem inv_put {s : State} {c : Cert} {added : List Name} (hI : Inv s) (hh : c.hash ≠ "")
    (hnames : ∀ n, (namesOf s.cache c.hash).count n + added.count n = c.names.count n)
    (hroom : s.cap > 0 → (erase c.hash s.cache).length < s.cap) :
    Inv { s with cache := put c.hash c s.cache, index := added.foldl (addIndex c.hash) s.index } := by
  have hidx : IdxOK (added.foldl (addIndex c.hash) s.index) :=
    addIndex_eq_upd c.hash ▸ idxOK_foldl_upd added ⟨hI.nodupI, hI.noEmpty⟩
  refine ⟨nodup_put hI.nodupC, hidx.nodup, forall_get?_put hI.keyHash ⟨rfl, hh⟩, fun n h => ?_, hidx.noEmpty, hroom⟩
  refine agree_iff.mpr ?_
  rw [idxGet_foldl_addIndex, namesOf_put, List.count_append, hI.count_eq, List.count_replicate]
  by_cases he : h = c.hash
  · subst he
    simp [hnames]
  · simp [he, Ne.symm he]

theorem inv_insertNew {s : State} {c : Cert} (hI : Inv s) (hn : get? c.hash s.cache = none)
    (hh : c.hash ≠ "") (hroom : s.cap > 0 → s.cache.length < s.cap) : Inv (insertNew c s) :=
  inv_put hI hh (fun n => by rw [namesOf_of_none hn]; simp)
    fun hc => Nat.lt_of_le_of_lt length_erase_le (hroom hc)

theorem inv_overwrite {s : State} {h : Hash} {e e' : Cert} (hI : Inv s) (hg : get? h s.cache = some e)
    (hnames : e'.names = e.names) (hhash : e'.hash = h) : Inv { s with cache := put h e' s.cache } := by
  subst hhash
  exact inv_put (added := []) hI (hI.keyHash _ e hg).2 (fun n => by rw [namesOf_of_get? hg, hnames]; simp)
    fun hc => Nat.lt_of_lt_of_le (length_erase_lt hg) (hI.capOK hc)

theorem inv_cap_removeHashes {hs : List Hash} {s : State} (hI : Inv s) :
    Inv (removeHashes hs s) ∧ (removeHashes hs s).cap = s.cap :=
  List.foldlRecOn (motive := fun s' : State => Inv s' ∧ s'.cap = s.cap) hs _ ⟨hI, rfl⟩
    fun _ hk h _ => ⟨inv_removeCert hk.1 (agrees_cached h hk.1), hk.2⟩

/-- the four ways `addCert` succeeds -/
inductive AddCert (c : Cert) (s : State) : Option Hash → State → Prop
  | same (e : Cert) : get? c.hash s.cache = some e → c.tags = [] → AddCert c s none s
  | merge (e : Cert) : get? c.hash s.cache = some e →
      AddCert c s none { s with cache := put c.hash { e with tags := mergeTags e.tags c.tags } s.cache }
  | fresh : get? c.hash s.cache = none → atCapacity s = false → AddCert c s none (insertNew c s)
  | evict (v : Hash) (vc : Cert) : get? c.hash s.cache = none → atCapacity s = true →
      get? v s.cache = some vc → AddCert c s (some v) (insertNew c (removeCert vc s))

theorem addCert_cases {c : Cert} {v : Option Hash} {s s' : State} (h : addCert c v s = some s') :
    AddCert c s v s' := by
  revert h
  fun_cases addCert c v s
  all_goals intro h; cases h
  next e hg ht => exact .same e hg ht
  next e hg _ => exact .merge e hg
  next hg hcap v vc hv => exact .evict v vc hg hcap hv
  next hg hcap => exact .fresh hg (Bool.eq_false_iff.mpr hcap)

theorem inv_cap_addCert {s s' : State} {c : Cert} {v : Option Hash} (hI : Inv s) (hh : c.hash ≠ "")
    (h : addCert c v s = some s') : Inv s' ∧ s'.cap = s.cap := by
  cases addCert_cases h with
  | same => exact ⟨hI, rfl⟩
  | merge e hg => exact ⟨inv_overwrite hI hg rfl (hI.keyHash _ _ hg).1, rfl⟩
  | fresh hg hcap =>
    refine ⟨inv_insertNew hI hg hh fun hc => ?_, rfl⟩
    simp only [atCapacity, Bool.and_eq_false_iff, decide_eq_false_iff_not] at hcap
    omega
  | evict v vc hg hcap hv =>
    refine ⟨inv_insertNew (inv_removeCert hI (agrees_of_get? hI hv)) ?_ hh fun hc => ?_, rfl⟩
    · rw [get?_removeCert, hg, ite_self]
    · -- the victim was cached, so its removal makes room
      have h1 := hI.capOK hc
      have h2 : (erase vc.hash s.cache).length < s.cache.length :=
        (hI.keyHash v vc hv).1 ▸ length_erase_lt hv
      simp only [removeCert]
      omega

theorem step_add {s s' : State} {c : Cert} {v : Option Hash} :
    step s (.add c v) = some s' ↔ c.hash ≠ "" ∧ addCert c v s = some s' :=
  Option.ite_none_left_eq_some

theorem step_replace {s s' : State} {old new : Cert} {v : Option Hash} :
    step s (.replace old new v) = some s' ↔
      new.hash ≠ "" ∧ agrees s old = true ∧ addCert new v (removeCert old s) = some s' := by
  show (if new.hash = "" then none else if agrees s old then addCert new v (removeCert old s) else none) = some s' ↔ _
  rw [Option.ite_none_left_eq_some, Option.ite_none_right_eq_some]

theorem inv_cap_ariWriteBack {s : State} {h : Hash} {stamp : Nat} (hI : Inv s) :
    Inv (ariWriteBack h stamp s) ∧ (ariWriteBack h stamp s).cap = s.cap := by
  fun_cases ariWriteBack h stamp s
  next e hg => exact ⟨inv_overwrite hI hg rfl (hI.keyHash _ _ hg).1, rfl⟩
  next => exact ⟨hI, rfl⟩

theorem inv_cap_hsWriteBack {s : State} {c : Cert} (hI : Inv s) (ha : agrees s c = true) :
    Inv (hsWriteBack c s) ∧ (hsWriteBack c s).cap = s.cap := by
  fun_cases hsWriteBack c s
  next e hg => exact ⟨inv_overwrite hI hg (agrees_iff.mp ha e hg).symm rfl, rfl⟩
  next => exact ⟨hI, rfl⟩

theorem inv_cap_step {s s' : State} {e : Ev} (hI : Inv s) (h : step s e = some s') :
    Inv s' ∧ s'.cap = s.cap := by
  cases e with
  | add c v =>
    obtain ⟨hh, ha⟩ := step_add.mp h
    exact inv_cap_addCert hI hh ha
  | remove hs | removeManaged subjects => cases h; exact inv_cap_removeHashes hI
  | replace old new v =>
    obtain ⟨hh, ho, ha⟩ := step_replace.mp h
    exact inv_cap_addCert (s := removeCert old s) (inv_removeCert hI ho) hh ha
  | removeCopy c =>
    obtain ⟨ha, hs⟩ := Option.ite_some_none_eq_some.mp h
    exact hs ▸ ⟨inv_removeCert hI ha, rfl⟩
  | ariWB hsh stamp => cases h; exact inv_cap_ariWriteBack hI
  | hsWB c =>
    obtain ⟨ha, hs⟩ := Option.ite_some_none_eq_some.mp h
    exact hs ▸ inv_cap_hsWriteBack hI ha

theorem inv_step {s s' : State} {e : Ev} (hI : Inv s) (h : step s e = some s') : Inv s' :=
  (inv_cap_step hI h).1

theorem inv_cap_run {es : List Ev} {s s' : State} (hI : Inv s) (h : run s es = some s') :
    Inv s' ∧ s'.cap = s.cap := by
  revert h
  fun_induction run s es
  all_goals intro h
  next => cases h; exact ⟨hI, rfl⟩
  next s1 hs1 ih =>
    have h1 := inv_cap_step hI hs1
    have h2 := ih h1.1 h
    exact ⟨h2.1, h2.2.trans h1.2⟩
  next => cases h

theorem mem_hashesOf_iff {s : State} (hI : Inv s) (n : Name) (h : Hash) :
    h ∈ hashesOf s n ↔ ∃ c, get? h s.cache = some c ∧ n ∈ c.names := by
  unfold hashesOf
  rw [← List.count_pos_iff, hI.count_eq]
  cases hg : get? h s.cache with
  | none => simp [namesOf_of_none hg]
  | some c => simp [namesOf_of_get? hg]

theorem mem_matching_iff {s : State} (hI : Inv s) (n : Name) (c : Cert) :
    c ∈ matching s n ↔ get? c.hash s.cache = some c ∧ n ∈ c.names := by
  constructor
  · intro hm
    obtain ⟨h, hh, rfl⟩ := List.mem_map.mp hm
    obtain ⟨c, hg, hn⟩ := (mem_hashesOf_iff hI n h).mp hh
    rw [hg, Option.getD_some, (hI.keyHash h c hg).1]
    exact ⟨hg, hn⟩
  · rintro ⟨hg, hn⟩
    exact List.mem_map.mpr ⟨c.hash, (mem_hashesOf_iff hI n c.hash).mpr ⟨c, hg, hn⟩, by rw [hg]; rfl⟩

theorem addCert_get_self {s s' : State} {c : Cert} {v : Option Hash} (ha : agrees s c = true)
    (h : addCert c v s = some s') : ∃ c', get? c.hash s'.cache = some c' ∧ c'.names = c.names := by
  cases addCert_cases h with
  | same e hg => exact ⟨e, hg, agrees_iff.mp ha e hg⟩
  | merge e hg => exact ⟨_, get?_put_self, agrees_iff.mp ha e hg⟩
  | fresh | evict => exact ⟨c, get?_put_self, rfl⟩

theorem addCert_absent_stays {s s' : State} {c : Cert} {v : Option Hash} {h' : Hash} (hne : h' ≠ c.hash)
    (hn : get? h' s.cache = none) (h : addCert c v s = some s') : get? h' s'.cache = none := by
  cases addCert_cases h with
  | same => exact hn
  | merge => simp only [get?_put, if_neg hne, hn]
  | fresh => simp only [insertNew, get?_put, if_neg hne, hn]
  | evict => simp only [insertNew, removeCert, get?_put, get?_erase, if_neg hne, hn, ite_self]

theorem mem_mergeTags (old new : List Tag) (t : Tag) : t ∈ mergeTags old new ↔ t ∈ old ∨ t ∈ new := by
  unfold mergeTags
  induction new generalizing old with
  | nil => simp
  | cons a r ih =>
    rw [List.foldl_cons, ih]
    by_cases ha : a ∈ old
    · -- `t = a` is absorbed by `t ∈ old`
      rw [if_pos ha, List.mem_cons, ← or_assoc, or_iff_left_of_imp fun e : t = a => e ▸ ha]
    · simp [ha, or_assoc]

theorem mergeTags_prefix {old new : List Tag} : old <+: mergeTags old new := by
  unfold mergeTags
  induction new generalizing old with
  | nil => exact List.prefix_refl _
  | cons a r ih =>
    rw [List.foldl_cons]
    split
    · exact ih
    · exact List.IsPrefix.trans (List.prefix_append old [a]) ih

theorem nodupB_sound [DecidableEq α] {l : List α} (h : nodupB l = true) : l.Nodup := by
  induction l with
  | nil => exact List.nodup_nil
  | cons a r ih =>
    simp only [nodupB, Bool.and_eq_true, Bool.not_eq_true', decide_eq_false_iff_not] at h
    exact List.nodup_cons.mpr ⟨h.1, ih h.2⟩

theorem mem_of_mem_idxGet {idx : List (Name × List Hash)} {n : Name} {h : Hash} (hm : h ∈ idxGet idx n) :
    ∃ l, (n, l) ∈ idx ∧ h ∈ l := by
  unfold idxGet at hm
  cases hg : get? n idx with
  | none => rw [hg] at hm; cases hm
  | some l => rw [hg] at hm; exact ⟨l, mem_of_get? hg, hm⟩

/-- the counts need comparing only for names and hashes from lists that hold whatever is listed -/
theorem agree_of_bounded {s : State} {names : List Name} {hashes : List Hash}
    (hsupp : ∀ n h, h ∈ hashesOf s n → n ∈ names ∧ h ∈ hashes)
    (h6 : ∀ h ∈ hashes, get? h s.cache = none → ∀ n ∈ names, (hashesOf s n).count h = 0)
    (h7 : ∀ p ∈ s.cache, ∀ n ∈ p.2.names, p.2.names.count n ≤ (hashesOf s n).count p.1)
    (h8 : ∀ p ∈ s.cache, ∀ n ∈ names, (hashesOf s n).count p.1 ≤ p.2.names.count n)
    (n : Name) (k : Hash) :
    (hashesOf s n).count k = match get? k s.cache with
      | some c => c.names.count n
      | none => 0 := by
  cases hg : get? k s.cache with
  | none =>
    by_cases hm : k ∈ hashesOf s n
    · exact h6 k (hsupp n k hm).2 hg n (hsupp n k hm).1
    · exact List.count_eq_zero.mpr hm
  | some c =>
    have hp := mem_of_get? hg
    refine Nat.le_antisymm ?_ ?_
    · by_cases hm : k ∈ hashesOf s n
      · exact h8 _ hp n (hsupp n k hm).1
      · exact Nat.le_trans (Nat.le_of_eq (List.count_eq_zero.mpr hm)) (Nat.zero_le _)
    · by_cases hn : n ∈ c.names
      · exact h7 _ hp n hn
      · exact Nat.le_trans (Nat.le_of_eq (List.count_eq_zero.mpr hn)) (Nat.zero_le _)

end CM.Cache
