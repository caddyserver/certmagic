import CM.Model.Issue
import CM.Lib.Upd
/-!
The issuance LTS, seen from the proofs: `Effect.of_step` says once what a step does (who moves, from
which program counter to which, what happens to lock, storage, budget and ghosts); the invariants,
the facts about a stored fresh bundle and the termination measure are all stated over `Effect`.
-/
namespace CM.Issue

variable {due : Ver → Bool}

/-- the request an event belongs to (`expire` belongs to nobody) -/
def Ev.proc : Ev → Option Nat
  | .pre p | .acq p | .recheck p | .issueBegin p | .issueEnd p _ | .saveOk p | .saveFail p _
  | .retry p | .giveUp p | .rel p | .die p => some p
  | .expire => none

/-- Moves of a request that change nothing but its program counter: the pre-check (`skip`: nothing
to do, `queue`: go for the lock), the re-check under the lock (`found`; `loadErr`: nothing to renew;
`go`: issue — these two only when no fresh bundle is stored), a failed save, giving up, dying. -/
inductive Moves (due : Ver → Bool) (s : St) : PC → PC → Prop
  | skip : Moves due s .start (.done true)
  | queue : Moves due s .start .wantLock
  | found : Moves due s .recheck (.release true)
  | loadErr : fresh due s = false → Moves due s .recheck .failed
  | go : fresh due s = false → Moves due s .recheck .issueBegin
  | saveErr : Moves due s .save .failed
  | giveUp : Moves due s .failed (.release false)
  | die {c : PC} : (∀ ok, c ≠ .done ok) → c ≠ .dead → Moves due s c .dead

/-- the steps of the LTS by their effect on the state; the index is the request that moves -/
inductive Effect (due : Ver → Bool) (s : St) : Option Nat → St → Prop
  | resolve {p : Nat} (k : Kind) : s.pc p = .start → s.kind p = .manage → k ≠ .manage →
      Effect due s (some p) { s with kind := upd s.kind p k }
  | move {p : Nat} {c c' : PC} : s.pc p = c → Moves due s c c' →
      Effect due s (some p) { s with pc := upd s.pc p c' }
  | acq {p : Nat} : s.pc p = .wantLock → s.lock = none →
      Effect due s (some p) { s with lock := some p, pc := upd s.pc p .recheck }
  | call {p : Nat} : s.pc p = .issueBegin →
      Effect due s (some p) { s with pc := upd s.pc p .issuing, contacted := upd s.contacted p true }
  | answer {p : Nat} (ok : Bool) : s.pc p = .issuing →
      Effect due s (some p)
        { s with pc := upd s.pc p (if ok then .save else .failed),
                 issuedBy := if ok then upd s.issuedBy p (s.issuedBy p + 1) else s.issuedBy }
  | save {p : Nat} : s.pc p = .save →
      Effect due s (some p)
        { s with stored := some s.next, next := s.next + 1, pc := upd s.pc p (.release true) }
  | retry {p : Nat} : s.pc p = .failed → 0 < s.budget p →
      Effect due s (some p) { s with pc := upd s.pc p .recheck, budget := upd s.budget p (s.budget p - 1) }
  | rel {p : Nat} (ok : Bool) : s.pc p = .release ok →
      Effect due s (some p) { s with lock := none, pc := upd s.pc p (.done ok) }
  | expire {q : Nat} : s.lock = some q → s.pc q = .dead → Effect due s none { s with lock := none }

theorem Effect.of_step {s s' : St} {e : Ev} (h : step due s e = some s') : Effect due s e.proc s' := by
  revert h
  -- one goal per leaf of `step`, in the order of its definition; `cases h` closes the refusals
  fun_cases step due s e
  all_goals intro h; cases h
  next p hc _ =>
    split
    · exact .move hc .skip
    · exact .move hc .queue
  next p hc _ => exact .move hc .queue
  next p hc hk _ => exact .resolve _ hc hk nofun
  next p hc hk _ _ _ => exact .resolve _ hc hk nofun
  next p hc _ _ _ _ => exact .move hc .skip
  next p hc => exact .acq hc.1 hc.2
  next p hc _ hs => exact .move hc (.loadErr (by simp [fresh, hs]))
  next p hc _ v hs =>
    cases hd : due v
    · exact .move hc .found
    · exact .move hc (.go (by simp [fresh, hs, hd]))
  next p hc _ =>
    split
    · exact .move hc .found
    · next hn => exact .move hc (.go (by cases hs : s.stored <;> simp [fresh, hs] at hn ⊢))
  next p hc => exact .call hc
  next p ok hc => exact .answer ok hc
  next p hc => exact .save hc
  next p _ hc => exact .move hc .saveErr
  next p hc => exact .retry hc.1 hc.2.2
  next p hc => exact .move hc .giveUp
  next p ok hc => exact .rel ok hc
  next p h1 h2 => exact .move rfl (.die h1 h2)
  next q hl hd => exact .expire hl hd

theorem Effect.frame {s s' : St} {m : Option Nat} (h : Effect due s m s') (q : Nat) (hq : m ≠ some q) :
    s'.pc q = s.pc q ∧ s'.kind q = s.kind q ∧ s'.budget q = s.budget q ∧
      s'.contacted q = s.contacted q := by
  have hne : ∀ p, m = some p → q ≠ p := fun p hm e => hq (hm ▸ e ▸ rfl)
  cases h with
  | expire => exact ⟨rfl, rfl, rfl, rfl⟩
  | _ => simp only [upd_other (hne _ rfl), and_self]

theorem Effect.stored {s s' : St} {m : Option Nat} (h : Effect due s m s') (hn : ∀ p, s.pc p ≠ .save) :
    s'.stored = s.stored := by
  cases h with
  | save hc => exact absurd hc (hn _)
  | _ => rfl

/-- inductive invariant: whoever is in the critical section holds the lock; whoever is
about to issue / issuing / about to save sees no fresh bundle in storage -/
structure Inv (due : Ver → Bool) (s : St) : Prop where
  cs_holds : ∀ p, (s.pc p).inCS = true → s.lock = some p
  issue_not_fresh : ∀ p, (s.pc p).wantsIssue = true → fresh due s = false

theorem wantsIssue_inCS {c : PC} (h : c.wantsIssue = true) : c.inCS = true := by
  cases c with
  | issueBegin | issuing | save => rfl
  | _ => cases h

theorem holder_unique {s : St} (hi : Inv due s) {p q : Nat}
    (hp : (s.pc p).inCS = true) (hq : (s.pc q).inCS = true) : p = q :=
  Option.some.inj ((hi.cs_holds p hp).symm.trans (hi.cs_holds q hq))

theorem Moves.inCS {s : St} {c c' : PC} (h : Moves due s c c') (hc : c'.inCS = true) :
    c.inCS = true := by
  cases h with
  | skip | queue | die => cases hc
  | _ => rfl

theorem Moves.not_fresh {s : St} {c c' : PC} (h : Moves due s c c') (hc : c'.wantsIssue = true) :
    fresh due s = false := by
  cases h with
  | go hf => exact hf
  | _ => cases hc

/-- `Inv` speaks of the whole state: `hp` says where `s'` differs from `s` (at every call `s'` is a
record update and `hp` is `rfl`); lock and storage are read off `s'`, since the step may change them. -/
theorem inv_of_pc {s s' : St} {p : Nat} {v : PC} (hp : s'.pc = upd s.pc p v)
    (h1 : v.inCS = true → s'.lock = some p) (h2 : v.wantsIssue = true → fresh due s' = false)
    (ho1 : ∀ q, q ≠ p → (s.pc q).inCS = true → s'.lock = some q)
    (ho2 : ∀ q, q ≠ p → (s.pc q).wantsIssue = true → fresh due s' = false) : Inv due s' := by
  constructor <;> rw [hp]
  · exact Upd.forall_upd (P := fun q (c : PC) => c.inCS = true → s'.lock = some q) h1 ho1
  · exact Upd.forall_upd (P := fun _ (c : PC) => c.wantsIssue = true → fresh due s' = false) h2 ho2

theorem Effect.inv {s s' : St} {m : Option Nat} (hi : Inv due s) (h : Effect due s m s') :
    Inv due s' := by
  have alone {p : Nat} (hp : (s.pc p).inCS = true) (q : Nat) (hq : q ≠ p) :
      (s.pc q).inCS = true → False := fun h => hq (holder_unique hi h hp)
  cases h with
  | resolve k hc hk _ => exact ⟨hi.cs_holds, hi.issue_not_fresh⟩
  | move hc hm =>
    exact inv_of_pc rfl (fun h => hi.cs_holds _ (hc ▸ hm.inCS h)) hm.not_fresh
      (fun q _ => hi.cs_holds q) (fun q _ => hi.issue_not_fresh q)
  | acq hc hl =>
    refine inv_of_pc rfl (fun _ => rfl) nofun ?_ (fun q _ => hi.issue_not_fresh q)
    intro q _ hq
    have := hi.cs_holds q hq
    rw [hl] at this; cases this
  | @call p hc | @answer p ok hc =>
    exact inv_of_pc rfl (fun _ => hi.cs_holds p (hc ▸ rfl)) (fun _ => hi.issue_not_fresh p (hc ▸ rfl))
      (fun q _ => hi.cs_holds q) (fun q _ => hi.issue_not_fresh q)
  | @save p hc =>
    -- storage changes, but nobody else is about to issue
    have hp : (s.pc p).inCS = true := hc ▸ rfl
    exact inv_of_pc rfl (fun _ => hi.cs_holds p hp) nofun
      (fun q _ => hi.cs_holds q) (fun q hq h => (alone hp q hq (wantsIssue_inCS h)).elim)
  | retry hc hb =>
    exact inv_of_pc rfl (fun _ => hi.cs_holds _ (hc ▸ rfl)) nofun
      (fun q _ => hi.cs_holds q) (fun q _ => hi.issue_not_fresh q)
  | @rel p ok hc =>
    have hp : (s.pc p).inCS = true := hc ▸ rfl
    exact inv_of_pc rfl nofun nofun
      (fun q hq h => (alone hp q hq h).elim) (fun q _ => hi.issue_not_fresh q)
  | expire hl hd =>
    refine ⟨fun r hr => ?_, hi.issue_not_fresh⟩
    have := hi.cs_holds r hr
    rw [hl] at this; cases this
    rw [hd] at hr; cases hr

theorem inv_step {s s' : St} {e : Ev} (hi : Inv due s) (h : step due s e = some s') : Inv due s' :=
  (Effect.of_step h).inv hi

theorem inv_reach {s : St} (h : Reach due s) : Inv due s := by
  induction h with
  | init hi =>
    obtain ⟨_, hpc, _⟩ := hi
    constructor <;> intro p hp <;> rw [hpc p] at hp <;> cases hp
  | step _ hs ih => exact inv_step ih hs

/-- The converse of `Inv.cs_holds`, as far as it holds: the recorded holder is inside its critical
section, or dead. This is what `C01_takeover` needs beyond `Inv`. -/
def HolderOkOn (lock : Option Nat) (pc : Nat → PC) : Prop :=
  ∀ q, lock = some q → (pc q).inCS = true ∨ pc q = .dead

abbrev HolderOk (s : St) : Prop := HolderOkOn s.lock s.pc

theorem Moves.holder {s : St} {c c' : PC} (h : Moves due s c c') (hc : c.inCS = true ∨ c = .dead) :
    c'.inCS = true ∨ c' = .dead := by
  cases h with
  | skip | queue => rcases hc with h | h <;> cases h
  | die => exact .inr rfl
  | _ => exact .inl rfl

theorem HolderOkOn.move {lock : Option Nat} {pc : Nat → PC} {p : Nat} {v : PC} (ho : HolderOkOn lock pc)
    (hv : (pc p).inCS = true ∨ pc p = .dead → v.inCS = true ∨ v = .dead) : HolderOkOn lock (upd pc p v) :=
  Upd.forall_upd (P := fun q (c : PC) => lock = some q → c.inCS = true ∨ c = .dead)
    (fun h => hv (ho p h)) (fun q _ => ho q)

theorem Effect.holderOk {s s' : St} {m : Option Nat} (ho : HolderOk s) (h : Effect due s m s') :
    HolderOk s' := by
  cases h with
  | resolve k hc hk _ => exact ho
  | move hc hm => exact ho.move (hc ▸ hm.holder)
  | acq hc hl => intro q hq; cases hq; exact .inl (by simp [PC.inCS])
  | call hc | save hc | retry hc hb =>
    exact ho.move (fun _ => .inl rfl)
  | answer ok hc => exact ho.move (fun _ => .inl (by cases ok <;> rfl))
  | rel ok hc | expire hl hd => intro q hq; cases hq

theorem holderOk_reach {s : St} (h : Reach due s) : HolderOk s := by
  induction h with
  | init hi => intro q hq; rw [hi.1] at hq; cases hq
  | step _ hs ih => exact (Effect.of_step hs).holderOk ih

theorem cs_enabled {s : St} {q : Nat} (hcs : (s.pc q).inCS = true) :
    ∃ e, (step due s e).isSome = true ∧
      (e = .recheck q ∨ e = .issueBegin q ∨ e = .issueEnd q true ∨ e = .saveOk q ∨
        e = .giveUp q ∨ e = .rel q) := by
  cases hq : s.pc q with
  | start | wantLock | done ok | dead => rw [hq] at hcs; cases hcs
  | recheck =>
    refine ⟨.recheck q, ?_, by simp⟩
    rw [step, if_pos hq]
    cases s.kind q <;> cases s.stored <;> rfl
  | issueBegin => exact ⟨.issueBegin q, by rw [step, if_pos hq]; rfl, by simp⟩
  | issuing => exact ⟨.issueEnd q true, by rw [step, if_pos hq]; rfl, by simp⟩
  | save => exact ⟨.saveOk q, by rw [step, if_pos hq]; rfl, by simp⟩
  | failed => exact ⟨.giveUp q, by rw [step, if_pos hq]; rfl, by simp⟩
  | release ok => exact ⟨.rel q, by rw [step, hq]; rfl, by simp⟩

def Ev.isIssueBegin : Ev → Bool
  | .issueBegin _ => true
  | _ => false

/-- a request that has not contacted the issuer and is at a point from which, with a fresh
bundle stored, it can only go on to succeed -/
def quietPC : PC → Bool
  | .start | .wantLock | .recheck | .release true | .done true | .dead => true
  | _ => false

def Quiet (s : St) (p : Nat) : Prop := s.contacted p = false ∧ quietPC (s.pc p) = true

theorem Moves.quiet {s : St} {c c' : PC} (h : Moves due s c c') (hf : fresh due s = true)
    (hc : quietPC c = true) : quietPC c' = true := by
  cases h with
  | loadErr h | go h => rw [hf] at h; cases h
  | saveErr | giveUp => cases hc
  | _ => rfl

theorem Effect.quiet {s s' : St} {m : Option Nat} (hf : fresh due s = true) {p : Nat} (hq : Quiet s p)
    (h : Effect due s m s') : Quiet s' p := by
  by_cases hm : m = some p
  · subst hm
    obtain ⟨hct, hpc⟩ := hq
    cases h with
    | resolve k hc hk _ => exact ⟨hct, hpc⟩
    | move hc hm => exact ⟨hct, by simpa using hm.quiet hf (hc ▸ hpc)⟩
    | acq hc hl => exact ⟨hct, by simp [quietPC]⟩
    | call hc | answer ok hc | save hc | retry hc hb => rw [hc] at hpc; cases hpc
    | rel ok hc =>
      refine ⟨hct, ?_⟩
      rw [hc] at hpc
      cases ok with
      | true => simp [quietPC]
      | false => cases hpc
  · obtain ⟨h1, _, _, h2⟩ := h.frame p hm
    exact ⟨h2 ▸ hq.1, h1 ▸ hq.2⟩

theorem fresh_step {s s' : St} {e : Ev} (hi : Inv due s) (hf : fresh due s = true)
    (h : step due s e = some s') :
    s'.stored = s.stored ∧ e.isIssueBegin = false ∧ ∀ p, Quiet s p → Quiet s' p := by
  have nobody (p : Nat) (hp : (s.pc p).wantsIssue = true) : False := by
    have := hi.issue_not_fresh p hp
    rw [hf] at this; cases this
  refine ⟨(Effect.of_step h).stored fun p hp => nobody p (hp ▸ rfl), ?_,
    fun p hq => (Effect.of_step h).quiet hf hq⟩
  -- `Effect` is indexed by the request, not the event, so the guard of this event is read off `step`
  cases e with
  | issueBegin p => exact (nobody p ((Option.ite_none_right_eq_some.mp h).1 ▸ rfl)).elim
  | _ => rfl

theorem fresh_run {s s' : St} {es : List Ev} (hi : Inv due s) (hf : fresh due s = true)
    (hr : run due s es = some s') :
    s'.stored = s.stored ∧ es.all (fun e => !e.isIssueBegin) = true ∧ ∀ p, Quiet s p → Quiet s' p := by
  fun_induction run due s es with
  | case1 s => cases hr; exact ⟨rfl, rfl, fun _ h => h⟩
  | case2 s e es s1 hs ih =>
    obtain ⟨hst, he, hq⟩ := fresh_step hi hf hs
    obtain ⟨h1, h2, h3⟩ := ih (inv_step hi hs) (by rw [fresh, hst]; exact hf) hr
    exact ⟨h1.trans hst, by simp [he, h2], fun p h => h3 p (hq p h)⟩
  | case3 => cases hr

end CM.Issue
