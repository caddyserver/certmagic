import CM.Generated.Guard
import CM.Lib.Guard
/-!
Tie (C12, *guarded state*, verified checker): the certificate cache's two maps (`cache`, `cacheIndex`) and `Cache.mu`.
The skeletons are regenerated from /repo on every run — for EVERY function of the package
that touches the state (the lists are generated, so a new function is covered without
touching this file) — and `decide` runs the verified checker `CM.Guard.fnOK` on them in the
kernel. By `CM.Guard.fnOK_sound`, no execution of an accepted function (any branch, any
number of loop iterations, a panic at any call, its deferred unlock and deferred critical
sections included) accesses the state outside a critical section of its mutex.
-/
namespace CM.Tie.GuardCache
open CM.Guard CM.Skel

/-- the translator normalises the family's lock / unlock / access actions to these names -/
def P : Names := { lock := (· == "lock"), unlock := (· == "unlock"), access := (· == "access") }

theorem C12_tie_guard_cache : ∀ f ∈ CM.Gen.Guard.cache_funcs, fnOK P f.2 = true := by decide +kernel

/-- lifted by soundness: no execution of the body of such a function violates the discipline (the deferred
critical sections are the second part of `fnOK_sound`) -/
theorem C12_tie_guard_cache_sound (f : String × Sk) (hf : f ∈ CM.Gen.Guard.cache_funcs)
    {o : Out} {m : M} {v : Bool} (he : Exec P f.2 .free o m v) : v = false :=
  (fnOK_sound (C12_tie_guard_cache f hf) he).1

/-- helpers that expect the mutex to be held by their caller: they touch the state only
while it is held and never release it -/
theorem C12_tie_guard_cache_helpers : ∀ f ∈ CM.Gen.Guard.cache_helpers, helperOK P f.2 = true := by decide +kernel

/-- the functions the model's atomic steps correspond to are among those checked -/
theorem C12_tie_guard_cache_covers :
    ["Cache.cacheCertificate", "Cache.replaceCertificate", "Cache.Remove", "Cache.getAllMatchingCerts", "Config.handshakeMaintenance", "Config.updateARI", "Cache.updateOCSPStaples", "Cache.removeCertificate", "Cache.unsyncedCacheCertificate"].all (fun n => (CM.Gen.Guard.cache_funcs ++ CM.Gen.Guard.cache_helpers).any (fun f => f.1 == n)) = true := by decide +kernel

/-! #### writes need the EXCLUSIVE lock

The same maps once more with a narrower vocabulary: "lock"/"unlock" are `mu.Lock`/`mu.Unlock`
only (the read lock is not part of it), "access" are map WRITES and deletes only. Accepted by
the same verified checker: no execution writes to `cache` or `cacheIndex` while holding
nothing, or merely the read lock. -/

theorem C12_tie_guard_cache_writes_exclusive : ∀ f ∈ CM.Gen.Guard.cachew_funcs, fnOK P f.2 = true := by decide +kernel

theorem C12_tie_guard_cache_writes_exclusive_sound (f : String × Sk) (hf : f ∈ CM.Gen.Guard.cachew_funcs)
    {o : Out} {m : M} {v : Bool} (he : Exec P f.2 .free o m v) : v = false :=
  (fnOK_sound (C12_tie_guard_cache_writes_exclusive f hf) he).1

theorem C12_tie_guard_cache_writes_exclusive_helpers :
    ∀ f ∈ CM.Gen.Guard.cachew_helpers, helperOK P f.2 = true := by decide +kernel

end CM.Tie.GuardCache
