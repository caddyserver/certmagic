import CM.Generated.C05
import CM.Model.Maintain
/-!
Tie of the C05 model to `/repo`'s current source. `CM/Generated/C05.lean` is rewritten on
every run from maintain.go, config.go, certificates.go and async.go: each function the model
abstracts is reduced to the ordered list of the actions and blocks the model talks about.
The theorems state, as decidable predicates over those lists, the structural facts the
model relies on (not "the list is the one I saw", except for the two short bodies of
`C05_tie_reload_replaces` and `C05_tie_manage_loads_first`), plus the constants.
-/
namespace CM.Tie.C05
open CM.Gen.C05
open CM.Maintain (renewInterval retryTable maxRetry)

-- markers as `CM/Generated/C05.lean` prints them: `(0, action)`, `(1, block that opens)`, anything else closes the innermost block
abbrev Marks := List (Nat × String)

/-- the blocks open at each occurrence of action `t` (innermost first) -/
def stacksAux (t : String) : Marks → List String → List (List String)
  | [], _ => []
  | (0, x) :: xs, st => if x = t then st :: stacksAux t xs st else stacksAux t xs st
  | (1, x) :: xs, st => stacksAux t xs (x :: st)
  | (_, _) :: xs, st => stacksAux t xs st.tail

def stacks (l : Marks) (t : String) : List (List String) := stacksAux t l []

/-- position of the first occurrence of a marker (action or block opening) -/
def pos (l : Marks) (t : String) : Option Nat := (l.map (·.2)).idxOf? t

def before (l : Marks) (a b : String) : Bool :=
  match pos l a, pos l b with
  | some i, some j => i < j
  | _, _ => false

def has (l : Marks) (t : String) : Bool := (l.map (·.2)).contains t

/-- the names, in order, from just after the first `a` up to the first `b` -/
def between (l : Marks) (a b : String) : List String :=
  (((l.map (·.2)).dropWhile (· ≠ a)).drop 1).takeWhile (· ≠ b)

/-- the marker that follows the first occurrence of `t` -/
def next (l : Marks) (t : String) : Option String := (((l.map (·.2)).dropWhile (· ≠ t)).drop 1).head?

/-! ### RenewManagedCertificates -/

/-- between `RLock` and `RUnlock` lies the loop over the cache with every test and queue
insertion of `classify`, and nothing that changes the cache, takes the write lock, reloads
or submits (`scan` is a pure function of the state) -/
theorem C05_tie_scan_under_read_lock :
    (between renewManaged "RLock" "RUnlock").head? = some "range:certCache.cache" ∧
    ["ifUnmanaged", "ifNoNames", "ifOnDemand", "ifNeedsRenewal", "storageCheck", "append:reloadQueue",
      "toRenew", "append:deleteQueue"].all (fun t => (between renewManaged "RLock" "RUnlock").contains t) = true ∧
    ["reload", "queueTask", "remove", "submit", "Lock", "replace"].all
      (fun t => !(between renewManaged "RLock" "RUnlock").contains t) = true := by decide +kernel

/-- the tests come in the order of `classify`, the skipping ones end in `continue`; the storage
check happens only for a due certificate; a storage-check error falls through to the renew
queue; the reload queue is fed only when the stored version is fresh (and then the renew
queue is not) -/
theorem C05_tie_scan_order :
    before renewManaged "ifUnmanaged" "ifNoNames" ∧ before renewManaged "ifNoNames" "ifOnDemand" ∧
    before renewManaged "ifOnDemand" "ifNeedsRenewal" ∧ before renewManaged "ifNeedsRenewal" "storageCheck" ∧
    before renewManaged "storageCheck" "append:reloadQueue" ∧ before renewManaged "append:reloadQueue" "toRenew" ∧
    next renewManaged "ifUnmanaged" = some "continue" ∧ next renewManaged "ifOnDemand" = some "continue" ∧
    next renewManaged "ifNoNames" = some "append:deleteQueue" ∧
    stacks renewManaged "storageCheck" = [["ifNeedsRenewal", "range:certCache.cache"]] ∧
    stacks renewManaged "append:reloadQueue" = [["ifStoredFresh", "else", "ifNeedsRenewal", "range:certCache.cache"]] ∧
    next renewManaged "append:reloadQueue" = some "continue" ∧
    (stacks renewManaged "toRenew").head? = some ["ifNeedsRenewal", "range:certCache.cache"] := by decide +kernel

/-- after `RUnlock`: the reload queue is worked off first, then the renew queue, then the
delete queue (under the write lock); each action sits in the loop over its own queue -/
theorem C05_tie_actions_after_unlock :
    before renewManaged "RUnlock" "range:reloadQueue" ∧ before renewManaged "range:reloadQueue" "range:renewQueue" ∧
    before renewManaged "range:renewQueue" "range:deleteQueue" ∧
    stacks renewManaged "reload" = [["range:reloadQueue"]] ∧
    stacks renewManaged "queueTask" = [["range:renewQueue"]] ∧
    stacks renewManaged "remove" = [["range:deleteQueue"]] ∧
    before renewManaged "Lock" "range:deleteQueue" ∧ before renewManaged "remove" "Unlock" := by decide +kernel

/-- the renew queue is de-duplicated by hash (`insertCert`) -/
theorem C05_tie_insert_by_hash : insertCompares = "hash == hash" := rfl

/-! ### queueRenewalTask and reloadManagedCertificate -/

/-- the job is named `renew_` + the certificate's first name (`passJob`), and that is also
the name that is renewed and reloaded -/
theorem C05_tie_job_name :
    queueTaskJobNames = [("renew_", "Names[0]")] ∧ renewNameExpr = "Names[0]" ∧ reloadNameExpr = "Names[0]" := ⟨rfl, rfl, rfl⟩

/-- the job: renew first; on error the old certificate is removed only under
`cfg.OnDemand != nil` and the job returns the error (`finishFail`); otherwise reload
(`finishOk`); the job is handed to the job manager -/
theorem C05_tie_job_body :
    (queueTask.map (·.2)).take 2 = ["func", "renewAsync"] ∧
    stacks queueTask "remove" = [["ifOnDemand", "ifErr", "func"]] ∧
    stacks queueTask "reload" = [["func"]] ∧ before queueTask "return:val" "reload" ∧
    stacks queueTask "submit" = [[]] := by decide +kernel

/-- reloading = load from storage, then `replaceCertificate(old, new)` (`reload`) -/
theorem C05_tie_reload_replaces :
    reloadManaged.map (·.2) = ["load", "ifErr", "return:val", "", "replace", "return:nil"] := rfl

/-! ### manageOne -/

/-- already managed ⇒ nothing; otherwise the certificate is loaded (and cached) first -/
theorem C05_tie_manage_loads_first :
    (manageOne.map (·.2)).take 7 = ["matching", "range:matching", "ifManaged", "return:nil", "", "", "loadAndCache"] := rfl

/-- obtaining happens only inside the load-error branch, after the "not not-exist ⇒ return the
error" test; the obtain closure obtains, then loads and caches; the async obtain job has no name -/
theorem C05_tie_manage_obtains_only_if_absent :
    (between manageOne "loadAndCache" "func:obtain") = ["ifErr", "ifNotNotExist", "return:val", ""] ∧
    stacks manageOne "obtainAsync" = [["ifAsync", "func:obtain", "ifErr"]] ∧
    stacks manageOne "obtainSync" = [["else", "func:obtain", "ifErr"]] ∧
    stacks manageOne "call:obtain" = [["ifErr"]] ∧
    manageOneJobNames.head? = some ("", "") := by decide +kernel

/-- renewing happens only under `cert.NeedsRenewal(cfg)`, forced renewal only under the
revoked test, both in the `renew` closure that is outside the load-error branch; a renewal is
followed by a reload; the async job is named `renew_` + the name -/
theorem C05_tie_manage_renews_only_if_due :
    stacks manageOne "renewAsync" = [["ifAsync", "ifNeedsRenewal", "func:renew"]] ∧
    stacks manageOne "renewSync" = [["else", "ifNeedsRenewal", "func:renew"]] ∧
    stacks manageOne "forceRenew" = [["ifRevoked", "func:renew"]] ∧
    stacks manageOne "reload" = [["ifNeedsRenewal", "func:renew"]] ∧
    before manageOne "ifRevoked" "ifNeedsRenewal" ∧
    manageOneJobNames.getLast? = some ("renew_", "param") := by decide +kernel

/-! ### the job manager and the retry loop (what `submit` and `settle` assume) -/

/-- a named job whose name is present is dropped; otherwise the name is recorded and the job
queued; the name is forgotten only when the job has run (in the deferred function of `runJob`,
which the worker calls for each job it takes from the queue) -/
theorem C05_tie_submit_dedup :
    stacks submit "return" = [["ifPresent", "ifNamed"]] ∧ stacks submit "mapwrite:jm.names" = [["ifNamed"]] ∧
    before submit "ifPresent" "mapwrite:jm.names" ∧ stacks submit "append:jm.queue" = [[]] ∧
    stacks worker "runJob" = [["for"]] ∧ stacks runJob "job" = [[]] ∧
    stacks runJob "mapdelete:jm.names" = [["ifNamed", "func", "defer"]] := by decide +kernel

/-- there is a free worker for every job of the histories (the harness draws at most 6 names; 100 is a round
bound far above the jobs they can have at a time) -/
theorem C05_tie_workers : 100 ≤ maxConcurrentJobs := by decide +kernel

/-- when the retry window is over the loop gives up and returns the last error (`settle`: then
`finishFail`); it never turns a failure into a nil -/
theorem C05_tie_retry_gives_up_with_error :
    next withRetry "else" = some "return:val" ∧ between withRetry "ifWithinMax" "else" = [""] ∧
    has withRetry "return:nil" = false := by
  decide +kernel

/-! ### constants -/

theorem C05_tie_interval : renewCheckIntervalNs = renewInterval * 1000000000 := rfl

theorem C05_tie_retry_table :
    retryIntervalsNs = retryTable.map (· * 1000000000) ∧ maxRetryNs = maxRetry * 1000000000 := ⟨rfl, rfl⟩

end CM.Tie.C05
