import CM.Generated.C13
import CM.Lib.SkelHS
import CM.Model.SingleFlight
import CM.Model.Handshake
/-!
Tie of the C13 model to /repo's source: the three single-flight sites have the structural
facts the LTS's atomic steps rely on, and the time-outs are the model's.
-/
namespace CM.Tie.C13
open CM.Skel CM.SkelHS CM.Gen.C13 CM.SingleFlight

def loadMu := "certLoadWaitChansMu"
def loadMap := "certLoadWaitChans"
def obtMu := "obtainCertWaitChansMu"
def obtMap := "obtainCertWaitChans"

/-- the structural facts of one single-flight site, evaluated together: the kernel then converts the
action names of the site's skeleton once for all four -/
def siteFacts (mu m : String) (sk : Sk) : Bool :=
  single_flight_cs mu m sk && unblock_on_every_path m sk && select_has_timeout_arm sk && countWaits sk false == 1

theorem siteFacts_iff {mu m : String} {sk : Sk} : siteFacts mu m sk = true ↔
    single_flight_cs mu m sk = true ∧ unblock_on_every_path m sk = true ∧
      select_has_timeout_arm sk = true ∧ countWaits sk false = 1 := by
  simp only [siteFacts, Bool.and_eq_true, beq_iff_eq, and_assoc]

theorem C13_tie_load_site : siteFacts loadMu loadMap sk_Config_getCertDuringHandshake = true := by decide +kernel

theorem C13_tie_obtain_site : siteFacts obtMu obtMap sk_Config_obtainOnDemandCertificate = true := by decide +kernel

theorem C13_tie_renew_site : siteFacts obtMu obtMap sk_Config_renewDynamicCertificate = true := by decide +kernel

/-- load site: the map is read, and the new channel inserted, in one critical section of the
map's mutex; close and delete lie in one critical section; every access is under the mutex;
nothing blocking happens under it (`enterLoad` and `ret` are atomic steps of the LTS) -/
theorem C13_tie_load_cs : single_flight_cs loadMu loadMap sk_Config_getCertDuringHandshake = true :=
  (siteFacts_iff.mp C13_tie_load_site).1

/-- obtain site (`enterObtain`, `finish`) -/
theorem C13_tie_obtain_cs : single_flight_cs obtMu obtMap sk_Config_obtainOnDemandCertificate = true :=
  (siteFacts_iff.mp C13_tie_obtain_site).1

/-- renew site, the closure renewAndReload in the foreground and as goroutine included
(`enterRenew`, `finish`) -/
theorem C13_tie_renew_cs : single_flight_cs obtMu obtMap sk_Config_renewDynamicCertificate = true :=
  (siteFacts_iff.mp C13_tie_renew_site).1

/-- after a registration the unblock (close) is reached on every path that leaves the function
(load site: deferred; obtain site: before the return; renew site: in renewAndReload on the
denial path and after the renewal, foreground or goroutine) — panics apart (DESIGN §9) -/
theorem C13_tie_unblock_on_every_path :
    unblock_on_every_path loadMap sk_Config_getCertDuringHandshake = true ∧
    unblock_on_every_path obtMap sk_Config_obtainOnDemandCertificate = true ∧
    unblock_on_every_path obtMap sk_Config_renewDynamicCertificate = true :=
  ⟨(siteFacts_iff.mp C13_tie_load_site).2.1, (siteFacts_iff.mp C13_tie_obtain_site).2.1,
   (siteFacts_iff.mp C13_tie_renew_site).2.1⟩

/-- every `select` that waits has a time-out arm (and each site has exactly one such select) -/
theorem C13_tie_select_timeout :
    select_has_timeout_arm sk_Config_getCertDuringHandshake = true ∧ countWaits sk_Config_getCertDuringHandshake false = 1 ∧
    select_has_timeout_arm sk_Config_obtainOnDemandCertificate = true ∧ countWaits sk_Config_obtainOnDemandCertificate false = 1 ∧
    select_has_timeout_arm sk_Config_renewDynamicCertificate = true ∧ countWaits sk_Config_renewDynamicCertificate false = 1 :=
  ⟨(siteFacts_iff.mp C13_tie_load_site).2.2.1, (siteFacts_iff.mp C13_tie_load_site).2.2.2,
   (siteFacts_iff.mp C13_tie_obtain_site).2.2.1, (siteFacts_iff.mp C13_tie_obtain_site).2.2.2,
   (siteFacts_iff.mp C13_tie_renew_site).2.2.1, (siteFacts_iff.mp C13_tie_renew_site).2.2.2⟩

/-- the waiter and worker time-outs are the model's -/
theorem C13_tie_timeouts :
    timers_Config_getCertDuringHandshake = [waiterTimeout] ∧
    timers_Config_obtainOnDemandCertificate = [waiterTimeout] ∧
    timers_Config_renewDynamicCertificate = [waiterTimeout] ∧
    ctxTimeouts_Config_getCertDuringHandshake = [] ∧
    ctxTimeouts_Config_obtainOnDemandCertificate = [obtainTimeout] ∧
    ctxTimeouts_Config_renewDynamicCertificate = [renewBgTimeout, renewFgTimeout] := ⟨rfl, rfl, rfl, rfl, rfl, rfl⟩

/-- attempts of doWithRetry that start before `d` has elapsed: 1 + the number of prefix sums
of retryIntervals that are ≤ d -/
def attemptsWithin (d : Int) : List Int → Int → Nat
  | [], _ => 1
  | i :: rest, acc => if acc + i ≤ d then 1 + attemptsWithin d rest (acc + i) else 1

/-- the bound on retries used by the effect-program model (C02) is what fits into the longest
worker time-out -/
theorem C13_tie_attempts : attemptsWithin renewBgTimeout retryIntervals 0 = CM.Handshake.maxAttempts := by decide +kernel

/-- the D9 repair is in place: the load site's critical section can be left by the unlock
alone (the re-entering owner neither waits nor registers) — the `fix = true` of the LTS -/
theorem C13_tie_owner_exempt : hasBareUnlockBranch loadMu sk_Config_getCertDuringHandshake = true := by decide +kernel

/-- the predicates do reject the mutations they are meant for -/
example : single_flight_cs "mu" "m"
    (.seq (.act "mu.Lock") (.seq (.act "mapread:m") (.seq (.act "mu.Unlock")
      (.seq (.act "mu.Lock") (.seq (.act "mapwrite:m") (.act "mu.Unlock")))))) = false := by decide +kernel
example : single_flight_cs "mu" "m"       -- close moved after the unlock
    (.seq (.act "mu.Lock") (.seq (.act "mapdelete:m") (.seq (.act "mu.Unlock") (.act "close:wait")))) = false := by decide +kernel
example : single_flight_cs "mu" "m"       -- delete forgotten
    (.seq (.act "mu.Lock") (.seq (.act "close:wait") (.act "mu.Unlock"))) = false := by decide +kernel
example : single_flight_cs "mu" "m"
    (.seq (.act "mu.Lock") (.seq (.act "close:wait") (.seq (.act "mapdelete:m") (.act "mu.Unlock")))) = true := by decide +kernel
example : unblock_on_every_path "m"       -- an error path returns without unblocking
    (.seq (.act "mapwrite:m") (.seq (.br "err != nil" .ret .skip) (.seq (.act "close:wait") .ret))) = false := by decide +kernel
example : select_has_timeout_arm (.br "select <-wait" (.act "recv:wait") .skip) = false := by decide +kernel

end CM.Tie.C13
