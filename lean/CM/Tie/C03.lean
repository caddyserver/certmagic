import CM.Generated.C03
import CM.Model.Lookup
/-!
Tie of the C03 model to the current source (regenerated on every run): the facts of
`handshake.go` / `certificates.go` that `CM/Model/Lookup.lean` was written from.
-/
namespace CM.Tie.C03
open CM.Lookup

/-- `cacheAlmostFull := capacity > 0 && size >= capacity * 0.9`, with the model's fraction -/
theorem C03_tie_almost_full :
    CM.Gen.C03.almostFullExpr = ["CAP", ">", "0", "&&", "SIZE", ">=", "CAP", "*", "FRAC"] ∧
    CM.Gen.C03.almostFullFactor = [(almostNum, almostDen)] := ⟨rfl, rfl⟩

/-- fix D3: inside the load-from-storage block nothing is returned unconditionally (the
loaded certificate only when `err == nil`), and the block is followed by "default
certificate if one was selected, else the error" — the order `afterMiss` follows -/
theorem C03_tie_load_block_falls_through :
    CM.Gen.C03.loadBlockUnconditionalReturns = 0 ∧
    -- (after fix D3b a loaded-but-expired certificate whose maintenance failed is returned
    -- together with its error; the only return with a nil error is under `err == nil`)
    CM.Gen.C03.loadBlockReturns =
      ["err == nil => loadedCert,nil", "!loadedCert.Empty() => loadedCert,err",
       "cfg.OnDemand != nil => cfg.obtainOnDemandCertificate(ctx, hello)"] ∧
    CM.Gen.C03.afterLoadBlock = ["if defaulted return cert,nil", "return error"] := ⟨rfl, rfl, rfl⟩

/-- `getCertificateFromCache` tries, in this order and nesting: (no SNI) the local IP of a
non-nil Conn, then the default name if set; (SNI) the exact name, then the wildcard
candidates in a loop; finally the fallback name if set — each followed by `if flag return`,
with `matched` for names that cover and `defaulted` for default/fallback -/
theorem C03_tie_lookup_order :
    CM.Gen.C03.selectCalls =
      [("localip", "matched!", "/nosni/conn"), ("default", "defaulted!", "/nosni/defaultset"),
       ("sni", "matched!", "/sni"), ("wildcard", "matched!", "/sni/loop:labels"),
       ("fallback", "defaulted!", "/fallbackset")] := rfl

/-- the wildcard loop splits on ".", sets `labels[i] = "*"` progressively, joins with "." -/
theorem C03_tie_wildcard_loop : CM.Gen.C03.wildcardLoop = (true, true, true) := rfl

/-- `DefaultCertificateSelector` has the shape of `selectDefault`/`scan` -/
theorem C03_tie_selector :
    CM.Gen.C03.selectorShape =
      ["single-choice-returned", "no-choice-error", "best=first", "for choices {", "skip-unsupported",
       "best=choice", "return-if-now-after-notbefore-and-before-expiresat", "}", "return best"] := rfl

/-- `SubjectQualifiesForCert`: the same tests, the same forbidden characters -/
theorem C03_tie_qualifies :
    CM.Gen.C03.forbiddenChars.toList = forbidden ∧
    CM.Gen.C03.qualifyTests =
      ["!=|", "strings.TrimSpace", "!", "strings.HasPrefix|.", "!", "strings.HasSuffix|.", "!",
       "strings.Contains|*", "strings.HasPrefix|*.", "==|*", "!", "strings.ContainsAny|SET"] := ⟨rfl, rfl⟩

end CM.Tie.C03
