import CM.Generated.C15
import CM.Model.Challenge
/-!
Tie of the C15 model to the repository's current source. The facts are re-extracted on every
run (`CM/Generated/C15.lean`, by `go/extract/c15.go`); each theorem states that the
regenerated fact is the one the model — and hence every C15 theorem — relies on. Guards are
compared as *sets of what is tested* (method, path, host, …), not as spelled expressions.
-/
namespace CM.Tie.C15
open CM.Challenge

/-- the base path, the resource path prefix and the ALPN protocol name are the model's -/
theorem C15_tie_constants :
    CM.Gen.C15.basePath.toList = basePath ∧
    CM.Gen.C15.resourcePrefix.toList = basePath ++ ['/'] ∧
    CM.Gen.C15.acmeTLS1.toList = acmeTLS1 :=
  -- the second is not the same literal on both sides: the prefix has to be decoded, which the kernel does faster than `rfl`
  ⟨rfl, by decide +kernel, rfl⟩

/-- `HandleHTTPChallenge` declines when disabled or when the request does not look like a
challenge; looking like one is `GET` ∧ base-path prefix (`httpAnswer`'s first three tests) -/
theorem C15_tie_handle :
    CM.Gen.C15.handleGuards = ["recv==nil", "disabled", "!looksLike"] ∧
    CM.Gen.C15.looksLike = ["method==GET", "path^=base"] := ⟨rfl, rfl⟩

/-- the only write of `solveHTTPChallenge` is guarded by exact path ∧ case-insensitive host
∧ `GET` (`solves`) -/
theorem C15_tie_solve :
    CM.Gen.C15.solveConds = ["host=~ident", "method==GET", "path==resource"] ∧
    CM.Gen.C15.solveWrites = 1 ∧ CM.Gen.C15.solveWritesGuarded = true := ⟨rfl, rfl, rfl⟩

/-- the TLS-ALPN branch is taken exactly for a non-empty server name and the single protocol
`acme-tls/1`, always returns, and precedes the ordinary selection (`alpnAnswer`) -/
theorem C15_tie_alpn_branch :
    CM.Gen.C15.alpnBranchConds = ["nprotos==1", "proto0==acme-tls/1", "sni!=empty"] ∧
    CM.Gen.C15.alpnBranchReturns = true ∧ CM.Gen.C15.alpnBranchBeforeNormal = true := ⟨rfl, rfl, rfl⟩

/-- `getChallengeInfo`: memory first (a hit returns), then storage, then the decoded
challenge's key is compared with the name asked for (D12), and the test CA's prefix is
searched too (D17) (`lookup`, `searchPrefixes`) -/
theorem C15_tie_lookup :
    CM.Gen.C15.lookupOrder = ["memory", "storage", "decode", "identGuard"] ∧
    CM.Gen.C15.memoryHitReturns = true ∧ CM.Gen.C15.searchesTestCAPrefix = true ∧
    CM.Gen.C15.tokenFileIsSafeOfKey = true := ⟨rfl, rfl, rfl, rfl⟩

/-- `challengeKey` uses the reverse-DNS name exactly for TLS-ALPN-01 on an IP identifier -/
theorem C15_tie_challengeKey :
    CM.Gen.C15.challengeKeyConds = ["identType==ip", "type==tls-alpn-01"] ∧
    CM.Gen.C15.challengeKeyUsesReverseAddr = true := ⟨rfl, rfl⟩

/-- `solverWrapper` writes / deletes the memory entry under `challengeKey`, under the mutex,
and then calls the wrapped solver (`apply`) -/
theorem C15_tie_wrapper :
    CM.Gen.C15.wrapperPresent = ["lock", "write[challengeKey]", "unlock", "inner.Present"] ∧
    CM.Gen.C15.wrapperCleanUp = ["lock", "delete[challengeKey]", "unlock", "inner.CleanUp"] := ⟨rfl, rfl⟩

end CM.Tie.C15
