import CM.Generated.C10
import CM.Model.AtomicFile
/-!
Tie of the C10 write-protocol model to `/repo`'s current source: the facts below are
re-extracted from `filestorage.go` and `internal/atomicfile/file.go` on every run
(`CM/Generated/C10.lean`). Each theorem states that a regenerated fact is the one the LTS
`CM.AtomicFile` (and hence `C10_whole_values`, `C10_last_wins`, `C10_crash_old_or_new`)
is about. The key/prefix semantics are tied behaviourally (differential on histories).
-/
namespace CM.Tie.C10
open CM.AtomicFile

/-- `atomicFile.Close` performs sync → close → rename, in this order, on its main path, and
a failure of any of them returns before the next (so nothing is renamed that was not
synced): the order `wSync` → `wClose` → `wRename` of the LTS -/
theorem C10_tie_close_order :
    CM.Gen.C10.closeSteps = closeProtocol ∧ CM.Gen.C10.closeStepsGuarded = true := ⟨rfl, rfl⟩

/-- the temp file is created in the directory of the destination (`filepath.Dir(name)`),
so the rename is a same-directory rename, and it goes from that temp file to the
destination name: `wCreate` / `wRename` of the LTS -/
theorem C10_tie_temp_same_dir :
    CM.Gen.C10.tempInSameDir = true ∧ CM.Gen.C10.renameTempToName = true ∧
    CM.Gen.C10.newSteps.head? = some "createtemp" := ⟨rfl, rfl, rfl⟩

/-- writes go to the temp file only; cancelling removes it and never renames -/
theorem C10_tie_write_cancel :
    CM.Gen.C10.writeGoesToTemp = true ∧ CM.Gen.C10.cancelRemovesTemp = true := ⟨rfl, rfl⟩

/-- `FileStorage.Store` = MkdirAll, atomicfile.New(s.Filename(key)), Write(value), Close —
nothing else touches the file system on its main path (in particular nothing writes the
destination in place); a write error cancels; Close's error is returned -/
theorem C10_tie_store_steps :
    CM.Gen.C10.storeSteps = storeProtocol ∧ CM.Gen.C10.storeBranchSteps = ["cancel"] ∧
    CM.Gen.C10.storeTargetsKeyFile = true ∧ CM.Gen.C10.storeWritesWholeValue = true ∧
    CM.Gen.C10.storeReturnsCloseError = true := ⟨rfl, rfl, rfl, rfl, rfl⟩

/-- `Load` is one whole-file read (open, read to EOF): `rOpen`, `rRead`*, `rEOF` -/
theorem C10_tie_load : CM.Gen.C10.loadSteps = ["readfile"] := rfl

/-- `Delete` is a recursive removal of the key's path -/
theorem C10_tie_delete : CM.Gen.C10.deleteSteps = ["removeall"] := rfl

end CM.Tie.C10
