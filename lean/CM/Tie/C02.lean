import CM.Generated.C02
import CM.Lib.SkelHS
import CM.Model.Handshake
/-!
Tie of the C02 model to /repo's source: regenerated constants equal the model's, and the
regenerated skeletons have the structural facts the model relies on (the predicates are the
unverified ones of `CM/Lib/SkelHS.lean`; the verified counterpart is `CM/Tie/GuardGate.lean`).
-/
namespace CM.Tie.C02
open CM.Skel CM.SkelHS CM.Gen.C02

/-- the forbidden-character set of SubjectQualifiesForCert is the model's -/
theorem C02_tie_forbidden : forbiddenChars.toList = CM.Handshake.forbidden := rfl

-- (the other tests of SubjectQualifiesForCert are tied with the whole function: CM/Tie/FnC02.lean,
-- C02_tie_fn_SubjectQualifiesForCert)

/-- checkIfCertShouldBeObtained: on-demand requirement, then the syntactic check, then the
decision function if set (which then decides alone), otherwise the allow-list, enforced only
when non-empty (DESIGN §9) — the order `gateCheck` follows -/
theorem C02_tie_policy_rule :
    gateSteps = ["requireOnDemand", "qualifies", "onDemand", "hasFunc", "callFunc", "allowlistNonEmpty", "notInAllowlist"] ∧
      allowlistOnlyIfNonEmpty = true ∧ decisionFuncDecides = true := ⟨rfl, rfl, rfl⟩

def gate : String := "cfg.checkIfCertShouldBeObtained"

/-- getCertDuringHandshake: loading from storage and obtaining are dominated by a passed gate -/
theorem C02_tie_gate_getCert :
    gate_before_issuing_action gate ["cfg.loadCertFromStorage", "cfg.obtainOnDemandCertificate"]
      sk_Config_getCertDuringHandshake = true ∧
    mentions ["cfg.loadCertFromStorage", "cfg.obtainOnDemandCertificate", gate] sk_Config_getCertDuringHandshake = true := by
  decide +kernel

/-- handshakeMaintenance (closure renewIfNecessary, ARI goroutine included): obtaining anew is
dominated by a passed gate (the D5 repair) -/
theorem C02_tie_gate_maintenance :
    gate_before_issuing_action gate ["cfg.obtainOnDemandCertificate", "cfg.ObtainCertAsync", "cfg.RenewCertAsync", "cfg.forceRenew"]
      sk_Config_handshakeMaintenance = true ∧
    mentions ["cfg.obtainOnDemandCertificate", gate] sk_Config_handshakeMaintenance = true := by
  decide +kernel

/-- renewDynamicCertificate (closure renewAndReload, foreground and goroutine): renewal,
forced renewal and reload are dominated by a passed gate -/
theorem C02_tie_gate_renew :
    gate_before_issuing_action gate ["cfg.RenewCertAsync", "cfg.forceRenew", "cfg.reloadManagedCertificate"]
      sk_Config_renewDynamicCertificate = true ∧
    mentions ["cfg.RenewCertAsync", "cfg.forceRenew", "cfg.reloadManagedCertificate", gate] sk_Config_renewDynamicCertificate = true := by
  decide +kernel

/-- the functions that issue / load without a gate of their own are called only from gated
places: obtainOnDemandCertificate from getCertDuringHandshake and handshakeMaintenance (both
tied above), loadCertFromStorage from getCertDuringHandshake (tied above) and from
obtainOnDemandCertificate; and these are all the issuing / loading calls in handshake.go -/
theorem C02_tie_call_graph :
    callers_obtainOnDemandCertificate = ["Config.getCertDuringHandshake", "Config.handshakeMaintenance"] ∧
    callers_loadCertFromStorage = ["Config.getCertDuringHandshake", "Config.obtainOnDemandCertificate"] ∧
    callers_renewDynamicCertificate = ["Config.handshakeMaintenance"] ∧
    callers_handshakeMaintenance = ["Config.loadCertFromStorage", "Config.optionalMaintenance"] ∧
    callers_optionalMaintenance = ["Config.getCertDuringHandshake"] ∧
    issuingSites = ["Config.loadCertFromStorage:CacheManagedCertificate", "Config.loadCertFromStorage:CacheManagedCertificate",
      "Config.obtainOnDemandCertificate:ObtainCertAsync", "Config.renewDynamicCertificate:RenewCertAsync",
      "Config.renewDynamicCertificate:forceRenew", "Config.renewDynamicCertificate:reloadManagedCertificate"] := ⟨rfl, rfl, rfl, rfl, rfl, rfl⟩

/-- the checker does reject a skeleton in which the gate is missing (the unrepaired D5 shape) -/
example : gate_before_issuing_action gate ["cfg.obtainOnDemandCertificate"]
    (.seq (.act "cfg.storageHasCertResourcesAnyIssuer") (.br "!has" (.seq (.act "cfg.obtainOnDemandCertificate") .ret) .skip)) = false := by
  decide +kernel

/-- … and one in which the gate's error branch does not leave -/
example : gate_before_issuing_action gate ["cfg.obtainOnDemandCertificate"]
    (.seq (.act gate) (.seq (.br "err != nil" .skip .skip) (.act "cfg.obtainOnDemandCertificate"))) = false := by
  decide +kernel

example : gate_before_issuing_action gate ["cfg.obtainOnDemandCertificate"]
    (.seq (.act gate) (.seq (.br "err != nil" .ret .skip) (.act "cfg.obtainOnDemandCertificate"))) = true := by
  decide +kernel

end CM.Tie.C02
