import CM.Generated.C14
import CM.Model.OCSP
/-!
Tie of the C14 model to `ocsp.go` / `maintain.go` / `certificates.go` (facts regenerated
from the source on every run): which parse function is called with which arguments, the
validity checks, the order of the steps of `stapleOCSP`, the constants, what the callers
do with an error, and the maintenance conditions. The behavioural differential on the real
entry points under virtual time decides the rest.
-/
namespace CM.Tie.C14
open CM.OCSP

/-- both the stored staple and the fresh answer are parsed FOR THE CERTIFICATE (serial match);
the fresh answer is also verified against the issuer (D4 repair) -/
theorem C14_tie_parse :
    CM.Gen.C14.parseCalls.map (fun c => (c.1, c.2.1)) =
      [("stapleOCSP", "ocsp.ParseResponseForCert"), ("getOCSPForCert", "ocsp.ParseResponseForCert")] ∧
    CM.Gen.C14.parseCalls.all (fun c => c.2.2.1 != "nil" && c.2.2.1 != "-") = true ∧
    CM.Gen.C14.parseCalls.map (fun c => c.2.2.2) = ["issuerFromChain(_)", "issuerCert"] := ⟨rfl, by decide +kernel, rfl⟩

/-- a stored staple is reused only if fresh AND inside its validity period; an answer
outside its validity period is an error of `getOCSPForCert`; the period check accepts an
absent NextUpdate -/
theorem C14_tie_validity :
    CM.Gen.C14.reuseCond = "freshOCSP(_) && currentOCSP(_)" ∧
    CM.Gen.C14.answerCheck = "!currentOCSP(_)" ∧ CM.Gen.C14.answerCheckReturnsError = true := ⟨rfl, rfl, rfl⟩
-- (`currentOCSP`'s expression is tied with the whole function: CM/Tie/FnC14.lean, C14_tie_fn_currentOCSP)

def subseq : List String → List String → Bool
  | [], _ => true
  | _ :: _, [] => false
  | a :: as, b :: bs => if a = b then subseq as bs else subseq (a :: as) bs

/-- the order the model follows: disabled?, storage, parse, freshness+currency, delete,
query, short-lifetime exit, expiry check, attach `ocsp`, staple only under Status == Good,
persist; the staple is assigned in exactly one place and `ocsp` in exactly one -/
theorem C14_tie_order :
    subseq ["if-disabled", "storage.Load", "parse", "freshOCSP", "currentOCSP", "getOCSPForCert",
      "if-short-lifetime", "if-past-expiry", "return-err", "set-ocsp", "if-good", "set-staple:under-good", "storage.Store"]
      CM.Gen.C14.stapleSteps = true ∧
    -- (the deletion of an unusable stored staple follows its parsing and precedes the query; which
    -- arm of the parse-error test comes first in the source does not matter)
    subseq ["parse", "storage.Delete", "getOCSPForCert"] CM.Gen.C14.stapleSteps = true ∧
    (CM.Gen.C14.stapleSteps.filter (fun s => s = "set-staple:under-good" || s = "set-staple:unguarded")).length = 1 ∧
    (CM.Gen.C14.stapleSteps.filter (fun s => s = "set-ocsp")).length = 1 ∧
    (CM.Gen.C14.stapleSteps.filter (fun s => s = "parse")).length = 1 := by decide +kernel

/-- freshness = first half of the validity period; silent failure below 7 days of lifetime; `freshOCSP`
has exactly the four statements `fresh` follows (the function is tied whole in CM/Tie/FnC14.lean) -/
theorem C14_tie_constants :
    CM.Gen.C14.freshDivisor = 2 ∧ CM.Gen.C14.shortLifetimeNs = shortLifetime ∧
    CM.Gen.C14.freshBody.length = 4 := ⟨rfl, rfl, rfl⟩

/-- **failure is not fatal, structural half**: no caller returns on an error of `stapleOCSP`
(the certificate-making callers log it; maintenance skips the entry) -/
theorem C14_tie_not_fatal :
    CM.Gen.C14.stapleErrorHandling =
      ["Config.makeCertificateWithOCSP:log", "Config.CacheUnmanagedTLSCertificate:log",
       "Cache.updateOCSPStaples:continue", "Config.handshakeMaintenance:log"] := rfl

/-- maintenance: the skip and advance conditions, the guarded write-back and the removal when the forced
renewal fails are the model's (the force-renew predicate `certShouldBeForceRenewed` is tied whole:
CM/Tie/FnC14.lean, C14_tie_fn_certShouldBeForceRenewed) -/
theorem C14_tie_maintenance :
    CM.Gen.C14.scanSkipCond = "_.ocsp.Status != ocsp.Unknown && freshOCSP(_.ocsp)" ∧
    CM.Gen.C14.advanceCond =
      "_.ocsp != nil && _.ocsp.Status == ocsp.Good && (_.IsZero() || lastNextUpdate != _.ocsp.NextUpdate)" ∧
    CM.Gen.C14.writeBackGuarded = true ∧ CM.Gen.C14.forceRenewRemovesOnError = true := ⟨rfl, rfl, rfl, rfl⟩

end CM.Tie.C14
