import CM.Generated.C04
import CM.Model.Renew
/-!
Tie of the C04 model to `certificates.go` (regenerated on every run): the three ratio
checks and their order, the emergency fractions, the default ratio and the margin factor
are the ones the model uses. (The strings in `CM.Gen.C04` describing the shape of the
statements are printed for the reader and no theorem states them: the behavioural differential
under virtual time, not their spelling, decides.)
-/
namespace CM.Tie.C04
open CM.Renew

/-- the ratio checks are, in order: ARI emergency 1/20, the configured ratio, emergency 1/50 -/
theorem C04_tie_fractions :
    CM.Gen.C04.windowFractions = [(1, ariEmergencyDen), (0, 0), (1, emergencyDen)] := rfl

theorem C04_tie_default_ratio : CM.Gen.C04.defaultRatio = (1, defaultRatioDen) := rfl

theorem C04_tie_margin_factor : CM.Gen.C04.marginFactor = intervalFactor := rfl

end CM.Tie.C04
