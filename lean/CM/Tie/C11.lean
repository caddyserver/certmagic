import CM.Generated.C11
import CM.Model.Safe
/-!
Tie of the C11 model to `/repo`'s current source: the facts below are re-extracted from
`storage.go` on every run (`CM/Generated/C11.lean`); each theorem states that the
regenerated fact is the one the model (and hence every C11 theorem) is about.
-/
namespace CM.Tie.C11
open CM.Safe

/-- the replacer's pairs are the model's, in the same order -/
theorem C11_tie_pairs :
    CM.Gen.C11.replacerPairs = pairs.map (fun p => (p.1.toString, p.2)) := by decide +kernel

/-- the steps are applied in the order the model composes them: lower, trim, replacer,
character filter, and the `..` strip LAST (the order C11_no_dotdot depends on) -/
theorem C11_tie_steps :
    CM.Gen.C11.safeSteps = ["strings.ToLower", "strings.TrimSpace", "repl.Replace",
      "safeKeyRE.ReplaceAllLiteralString", "strings.ReplaceAll|..|"] := rfl

/-- the regexp literal is the one `keep` / `isWord` (`Model/Safe.lean`) were written from -/
theorem C11_tie_regexp : CM.Gen.C11.safeKeyRE = "[^\\w@.-]" := rfl

theorem C11_tie_prefixes :
    CM.Gen.C11.prefixCerts.toList = prefixCerts ∧ CM.Gen.C11.prefixOCSP.toList = prefixOCSP ∧
    CM.Gen.C11.prefixACME.toList = prefixACME := ⟨rfl, rfl, rfl⟩

end CM.Tie.C11
