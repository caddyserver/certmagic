/-
Tie of the function translator (DESIGN.md §12.7: what a function tie is, what is trusted) for C20: the model's
`internalHost` is proved equal, for all inputs, to the definition printed from the body of `SubjectIsInternal`.
-/
import CM.Generated.Fn
import CM.Model.Account
namespace CM.Tie.FnC20
open CM.Go

/-- **the model's `internalHost` IS the translated `SubjectIsInternal`**: for every behaviour of the two
functions that are not translated (`hostOnly`, `isInternalIP` — parameters of the translated
definition), every subject and every byte list `ip` for which `isInternalIP` answers what the model's
`internalIP` answers, the translated function returns what the model returns on the normalised host
(`strings.ToLower(strings.TrimSuffix(hostOnly(subj), "."))`, computed by Go and handed to the model
as an input). -/
theorem C20_tie_fn_SubjectIsInternal (hostOnly : Str → Str) (isInternalIP : Str → Bool)
    (subj : Str) (ip : List Nat)
    (hip : isInternalIP (strings_ToLower (strings_TrimSuffix (hostOnly subj) (Go.s ".")))
            = CM.Account.internalIP ip) :
    CM.Gen.Fn.SubjectIsInternal hostOnly isInternalIP subj
      = CM.Account.internalHost (strings_ToLower (strings_TrimSuffix (hostOnly subj) (Go.s "."))) ip := by
  unfold CM.Gen.Fn.SubjectIsInternal CM.Account.internalHost CM.Account.internalSuffixes
  simp only [hip, List.any_cons, List.any_nil, Bool.or_false, CM.Account.endsWith, strings_HasSuffix,
    Bool.or_assoc]
  -- the same disjunction on both sides, up to `Go.s x = x.toList`
  rfl

end CM.Tie.FnC20
