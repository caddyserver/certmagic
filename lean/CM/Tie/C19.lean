import CM.Generated.C19
import CM.Model.Async
/-!
Tie of the C19 models to `/repo`'s current source. `CM/Generated/C19.lean` is re-extracted from
async.go, acmeissuer.go and acmeclient.go on every run; each theorem below states that a
regenerated fact is the one the model (and hence every C19 theorem) is about.

* numbers and tables: the back-off table, the maximum duration, `maxConcurrentJobs ≥ 1`;
* named structural predicates over the ordered action lists of `jobManager.worker` (helper
  methods inlined) and `jobManager.Submit`: maps and counters only under the mutex; the
  queue-empty test and `activeWorkers--` in one critical section; recover + name release in a
  deferred function of the per-job scope inside the loop (the D15 repair); check-then-insert
  of the name, enqueue and worker spawn in one critical section of `Submit`;
* the statements of `doWithRetry` the model follows (local names replaced by roles);
* for the third part of the property (what `Issue` returns never comes from the test CA) — which has no
  behavioural tie for `Issue` itself, only for `newACMEClient` / `usingTestCA` — the decisive expressions of `Issue`, `doIssue`, `newACMEClient`,
  `usingTestCA`, `newBasicACMEClient`.
-/
namespace CM.Tie.C19
open CM.Async

/-! ### numbers and tables -/

/-- the generated back-off table is the model's -/
theorem C19_table_tie : CM.Gen.C19.retryIntervals = table := rfl

theorem C19_tie_max_duration : CM.Gen.C19.maxRetryDuration = maxDur := rfl

/-- the package's job manager satisfies the hypothesis `1 ≤ m` of `C19_jobs_run` -/
theorem C19_tie_max_jobs : 1 ≤ CM.Gen.C19.maxConcurrentJobs := by decide +kernel

/-! ### job manager: structural predicates over action lists -/

def isOpen (t : String) : Bool :=
  t == "for{" || t == "if{" || t == "else{" || t == "defer{" || t == "scope{" || t == "select{" || t == "case{"

def isAccess (t : String) : Bool :=
  ["r:queue", "w:queue", "r:names", "w:names", "del:names",
   "r:activeWorkers", "inc:activeWorkers", "dec:activeWorkers"].contains t

/-- state of the lock-discipline scan: is the mutex held; did the current block return;
enclosing blocks (held at entry, returned-flag at entry, kind: 0 branch/loop, 1 deferred
function, 2 inlined scope); no unguarded access so far -/
structure Scan where
  held : Bool
  term : Bool
  stack : List (Bool × Bool × Nat)
  ok : Bool

def scanStep (s : Scan) (t : String) : Scan :=
  if t == "lock" then { s with held := true }
  else if t == "unlock" then { s with held := false }
  else if t == "return" then { s with term := true }
  else if t == "defer{" then
    -- a deferred function runs at exit, with the mutex in an unknown state: assume not held
    { held := false, term := false, stack := (s.held, s.term, 1) :: s.stack, ok := s.ok }
  else if t == "scope{" then { s with term := false, stack := (s.held, s.term, 2) :: s.stack }
  else if isOpen t then { s with term := false, stack := (s.held, s.term, 0) :: s.stack }
  else if t == "}" then
    match s.stack with
    | [] => { s with ok := false }
    | (h0, t0, k) :: rest =>
      if k = 1 then { held := h0, term := t0, stack := rest, ok := s.ok }
      else if k = 2 then { held := s.held, term := t0, stack := rest, ok := s.ok }
      else
        -- a block that returned does not fall through; otherwise join with the skipped path
        { held := if s.term then h0 else (s.held && h0), term := t0, stack := rest, ok := s.ok }
  else if isAccess t then { s with ok := s.ok && s.held }
  else s

/-- every access to queue / names / activeWorkers happens with the mutex held. This scan is
reviewed, not verified: the claim is carried by `CM.Tie.GuardJobs.C19_tie_guard_jobs`, which runs
the verified checker on the skeletons in `CM.Gen.Guard.jobs_funcs`; the scan says the same of the
two action lists the other predicates here read, and the examples at the end of the file run it
on the unrepaired worker. -/
def mapsOnlyUnderMu (toks : List String) : Bool :=
  let s := toks.foldl scanStep { held := false, term := false, stack := [], ok := true }
  s.ok && s.stack.isEmpty

/-- split off a balanced block body: tokens up to the matching "}" and the rest -/
def splitBlock : Nat → List String → List String → Option (List String × List String)
  | _, _, [] => none
  | d, acc, t :: r =>
    if t == "}" then (if d = 0 then some (acc.reverse, r) else splitBlock (d - 1) (t :: acc) r)
    else if isOpen t then splitBlock (d + 1) (t :: acc) r
    else splitBlock d (t :: acc) r

/-- a per-job scope: before the job is called, a deferred function is installed that recovers
and deletes the name -/
def scopeOK : List String → Bool
  | [] => false
  | t :: r =>
    if t == "defer{" then
      match splitBlock 0 [] r with
      | some (d, rest) => d.contains "recover" && d.contains "del:names" && rest.contains "calljob"
      | none => false
    else if t == "calljob" then false
    else scopeOK r

/-- the job is run in a scope of its own inside the worker loop, and that scope is `scopeOK`
(so a panicking job releases its name and the loop goes on) -/
def releasePerJob : Bool → List String → Bool
  | _, [] => false
  | inFor, t :: r =>
    if t == "scope{" && inFor then
      match splitBlock 0 [] r with
      | some (body, _) => scopeOK body || releasePerJob inFor r
      | none => false
    else releasePerJob (inFor || t == "for{") r

/-- the job is called nowhere outside such a scope -/
def jobOnlyInScope : Nat → List String → Bool
  | _, [] => true
  | d, t :: r =>
    if t == "scope{" then jobOnlyInScope (d + 1) r
    else if t == "calljob" then decide (0 < d) && jobOnlyInScope d r
    else jobOnlyInScope d r

/-- `activeWorkers--` happens exactly once, with the mutex held since a read of the queue (the
emptiness test): a worker never exits while a job is queued -/
def exitAtomic (toks : List String) : Bool :=
  let r := toks.foldl (fun (st : Bool × Bool × Bool × Nat) t =>
    let (held, saw, ok, n) := st
    if t == "lock" then (true, false, ok, n)
    else if t == "unlock" then (false, false, ok, n)
    else if t == "r:queue" then (held, held, ok, n)
    else if t == "dec:activeWorkers" then (held, saw, ok && held && saw, n + 1)
    else st) (false, false, true, 0)
  r.2.2.1 && r.2.2.2 == 1

/-- contiguous sub-list -/
def hasSub (pat : List String) : List String → Bool
  | [] => pat.isEmpty
  | t :: r => pat.isPrefixOf (t :: r) || hasSub pat r

theorem C19_tie_worker_guarded : mapsOnlyUnderMu CM.Gen.C19.workerActions = true := by decide +kernel

theorem C19_tie_submit_guarded : mapsOnlyUnderMu CM.Gen.C19.submitActions = true := by decide +kernel

/-- the D15 repair is in place: recover and name release are deferred per job, inside the loop -/
theorem C19_tie_release_per_job :
    releasePerJob false CM.Gen.C19.workerActions = true ∧
    jobOnlyInScope 0 CM.Gen.C19.workerActions = true := by decide +kernel

/-- the model's `workerExit` is one atomic step (test and decrement under one lock hold), and
the only place where `activeWorkers` goes down -/
theorem C19_tie_worker_exit_atomic : exitAtomic CM.Gen.C19.workerActions = true := by decide +kernel

/-- the worker dequeues (read head, write tail) under the lock that tested emptiness: what directly
precedes the reads is the end of a block — in `workerActions` that of `if len(queue) == 0 { …;
unlock; return }`, which returns — and not an unlock -/
theorem C19_tie_worker_take :
    hasSub ["}", "r:queue", "r:queue", "w:queue", "unlock"] CM.Gen.C19.workerActions = true := by decide +kernel

/-- `Submit` is one critical section (`Lock` + deferred `Unlock`, no other unlock); the duplicate
test and the insertion of the name, the enqueue, and the guarded worker spawn follow in that
order, as in the model's `submit` step -/
theorem C19_tie_submit_shape :
    CM.Gen.C19.submitActions.take 2 = ["lock", "defer-unlock"] ∧
    CM.Gen.C19.submitActions.contains "unlock" = false ∧
    hasSub ["r:names", "if{", "return", "}", "w:names", "}", "r:queue", "w:queue",
            "r:activeWorkers", "if{", "inc:activeWorkers", "go:worker", "}"] CM.Gen.C19.submitActions = true := by
  decide +kernel

/-! ### doWithRetry: the statements the model follows -/

/-- the attempts counter lives in the context, the index starts at -1 -/
theorem C19_tie_retry_init :
    hasSub ["var attempts", "ctx = context.WithValue(ctx, AttemptsCtxKey, &attempts)",
            "start, idx := time.Now(), -1"] CM.Gen.C19.retryActions = true := by decide +kernel

/-- wait = 0 unless idx ≥ 0, then the table entry; then a timer raced against cancellation,
which returns `context.Canceled` -/
theorem C19_tie_retry_wait :
    hasSub ["var wait", "if{", "cond:idx >= 0", "wait = table[idx]", "}", "timer := time.NewTimer(wait)",
            "select{", "case{", "comm:<-ctx.Done()", "timer.Stop()", "return context.Canceled", "}",
            "case{", "comm:<-timer.C", "err = f(ctx)", "attempts++"] CM.Gen.C19.retryActions = true := by decide +kernel

/-- `attempts++` directly follows the call of `f` (so `f` sees 0, 1, 2, …) -/
theorem C19_tie_retry_attempts_after_f :
    hasSub ["err = f(ctx)", "attempts++"] CM.Gen.C19.retryActions = true ∧
    (CM.Gen.C19.retryActions.filter (· == "attempts++")).length = 1 := by decide +kernel

/-- success / cancellation error / ErrNoRetry return at once; the index increment saturates at
the last entry; past the maximum duration the loop gives up and returns the last error -/
theorem C19_tie_retry_classify :
    hasSub ["if{", "cond:err == nil || errors.Is(err, context.Canceled)", "return err", "}",
            "var errNoRetry", "if{", "cond:errors.As(err, &errNoRetry)", "return err", "}",
            "if{", "cond:idx < len(table)-1", "idx++", "}",
            "if{", "cond:time.Since(start) < max", "}", "else{", "return err", "}"]
      CM.Gen.C19.retryActions = true ∧
    (CM.Gen.C19.retryActions.filter (· == "idx++")).length = 1 := by decide +kernel

/-- async obtain and renew go through the retry loop; ManageAsync and maintenance submit jobs -/
theorem C19_tie_async_paths :
    CM.Gen.C19.retryCallers = ["Config.obtainCert", "Config.renewCert"] ∧
    CM.Gen.C19.submitCallers.contains "Config.manageOne" = true ∧
    CM.Gen.C19.submitCallers.contains "Cache.queueRenewalTask" = true := ⟨rfl, by decide +kernel, by decide +kernel⟩

/-! ### the CA choice: Issue / doIssue / newACMEClient -/

/-- `Issue`: `isRetry := attempts > 0`; the first order is placed with the real attempt number,
and an error from it is returned as it is (retryable) -/
theorem C19_tie_issue_first :
    CM.Gen.C19.issueIsRetry = "attempts > 0" ∧
    CM.Gen.C19.issueAttemptArgs = ["attempts", "0"] ∧
    CM.Gen.C19.issueAfterFirst = ["if{", "cond:err != nil", "return nil, err", "}"] := ⟨rfl, rfl, rfl⟩

/-- the second order (attempt number 0 ⇒ production directory, throttled) is placed exactly when
`isRetry && usedTestCA && am.CA != am.TestCA`; its certificate overwrites the test one, and
`cert` is what `Issue` returns -/
theorem C19_tie_issue_second :
    CM.Gen.C19.issueSecondGuard = ["am.CA != am.TestCA", "isRetry", "usedTestCA"] ∧
    CM.Gen.C19.issueCallLhs = ["cert, usedTestCA, err", "cert, _, err"] ∧
    CM.Gen.C19.issueFinalReturn = "cert, err" := ⟨rfl, rfl, rfl⟩

/-- a 429 problem from production is returned as it is (retryable), any other failure is
wrapped in `ErrNoRetry` -/
theorem C19_tie_issue_errors :
    CM.Gen.C19.issueSecondFailure =
      ["if{", "cond:err != nil", "var problem", "if{", "cond:errors.As(err, &problem)",
       "if{", "cond:problem.Status == http.StatusTooManyRequests", "return nil, err", "}", "}",
       "return nil, ErrNoRetry{err}", "}"] := rfl

/-- `doIssue`: `useTestCA := attempts > 0` selects the client; the throttle is guarded by
`!useTestCA`; the second result is `client.usingTestCA()` -/
theorem C19_tie_doissue :
    CM.Gen.C19.doIssueUseTestCA = "attempts > 0" ∧ CM.Gen.C19.doIssueClientArg = "useTestCA" ∧
    CM.Gen.C19.doIssueUsing = "client.usingTestCA()" ∧ CM.Gen.C19.doIssueThrottleGuard = ["!useTestCA"] ∧
    CM.Gen.C19.doIssueSuccessReturn = "ic, usingTestCA, nil" := ⟨rfl, rfl, rfl, rfl, rfl⟩

/-- `newACMEClient` starts from the production client and switches the directory to `TestCA`
only if `useTestCA && TestCA != ""`; `usingTestCA` compares the directory with a non-empty
`TestCA`; the production directory is `CA` (default if empty, "https://" prepended if it has
no scheme) -/
theorem C19_tie_client_directory :
    CM.Gen.C19.newClientFirst = "iss.newBasicACMEClient()" ∧
    CM.Gen.C19.newClientDirGuard = ["iss.TestCA != \"\"", "useTestCA"] ∧
    CM.Gen.C19.newClientDirAssign = "client.Client.Directory = iss.TestCA" ∧
    CM.Gen.C19.usingTestCAConj = ["c.acmeClient.Directory == c.iss.TestCA", "c.iss.TestCA != \"\""] ∧
    CM.Gen.C19.basicClientURL =
      -- (the scheme default and the HTTPS rule moved into `secureCAURL` with fix D19; they are C20's tie)
      ["caURL := iss.CA", "if{", "cond:caURL == \"\"", "caURL = DefaultACME.CA", "}",
       "caURL, err := secureCAURL(caURL)"] ∧
    CM.Gen.C19.basicClientDirectory = "caURL" := ⟨rfl, rfl, rfl, rfl, rfl, rfl⟩

/-! ### the predicates are not vacuous: they reject the unrepaired worker (D15) -/

/-- action list of `jobManager.worker` before the D15 repair (recover at goroutine level, name
released only after a normal return) -/
def unfixedWorker : List String :=
  ["defer{", "recover", "if{", "}", "}", "for{", "lock", "r:queue", "if{", "dec:activeWorkers", "unlock",
   "return", "}", "r:queue", "r:queue", "w:queue", "unlock", "calljob", "if{", "}", "if{", "lock",
   "del:names", "unlock", "}", "}"]

example : releasePerJob false unfixedWorker = false ∧ jobOnlyInScope 0 unfixedWorker = false ∧
    mapsOnlyUnderMu unfixedWorker = true := by decide +kernel

/-- … and a worker that touches the queue after unlocking -/
example : mapsOnlyUnderMu ["for{", "lock", "r:queue", "unlock", "w:queue", "}"] = false := by decide +kernel

end CM.Tie.C19
