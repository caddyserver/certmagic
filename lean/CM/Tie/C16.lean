import CM.Generated.C16
import CM.Model.Solvers
/-!
Tie of the C16 model to the repository's current source (`CM/Generated/C16.lean`, rewritten on
every run by `go/extract/c16.go`). The model treats a `Present` / `CleanUp` call as atomic
steps on independent components; these facts are what makes that adequate and what the
transition function `CM.Solvers.apply` was written from.
-/
namespace CM.Tie.C16

/-- **guarded maps**. An entry of `mapAccesses` is (function, map, kind of access, mutex held there):
`a.2.1` is the map, `a.2.2.1` the kind, and `a.2.2.2` the judgement of the scan in `go/extract/c16.go`
that the map's mutex is held (in the function itself, or at every call site of a helper that never
touches the mutex). That every access, anywhere in the package, to `solvers`, `activeChallenges` and the
DNS `records` map happens under the mutex is established with the verified checker, in
`Tie/GuardSolvers.lean`; here the first conjunct records that this scan found the same, and the other
two that it did see each map being read and written, and `solvers` and `activeChallenges` being deleted
from (`records` loses entries by re-assignment, a write). -/
theorem C16_tie_guarded_maps :
    CM.Gen.C16.mapAccesses.all (fun a => a.2.2.2) = true ∧
    ["solvers", "activeChallenges", "records"].all (fun m =>
      CM.Gen.C16.mapAccesses.any (fun a => a.2.1 == m && a.2.2.1 == "read") &&
      CM.Gen.C16.mapAccesses.any (fun a => a.2.1 == m && a.2.2.1 == "write")) = true ∧
    ["solvers", "activeChallenges"].all (fun m =>
      CM.Gen.C16.mapAccesses.any (fun a => a.2.1 == m && a.2.2.1 == "delete")) = true := by
  decide +kernel

/-- **distributedSolver** (D13): nothing can return between the token store and the embedded
solver's `Present`, nor between the token delete and the embedded solver's `CleanUp`, and
the delete runs with a context that cannot be cancelled (`storePresent`/`storeCleanUp`
followed unconditionally by `listenPresent`/`listenCleanUp`; `CRes.cancelled` unused) -/
theorem C16_tie_distributed :
    CM.Gen.C16.distPresent.take 2 = ["store", "inner.Present"] ∧
    CM.Gen.C16.distCleanUp.take 2 = ["delete[uncancellable]", "inner.CleanUp"] := ⟨rfl, rfl⟩

/-- **listeners**: `Present` counts the challenge before every return (also when the bind
fails, and — D13b — when no challenge certificate can be made); `CleanUp` decrements
exactly once, unconditionally, and at zero closes the listener and deletes the entry
(`listenPresent`, `listenCleanUp`) -/
theorem C16_tie_listeners :
    CM.Gen.C16.httpSolver_presentCountsBeforeEveryReturn = true ∧
    CM.Gen.C16.httpSolver_cleanUpDecrements = 1 ∧
    CM.Gen.C16.httpSolver_closesAndDeletesAtZero = true ∧
    CM.Gen.C16.tlsALPNSolver_presentCountsBeforeEveryReturn = true ∧
    CM.Gen.C16.tlsALPNSolver_cleanUpDecrements = 1 ∧
    CM.Gen.C16.tlsALPNSolver_closesAndDeletesAtZero = true := ⟨rfl, rfl, rfl, rfl, rfl, rfl⟩

/-- **DNS-01**: the remembered record is forgotten on every exit of `CleanUp`, the provider's
delete runs with a fresh context, and records are told apart by value (`apply`, DNS cases) -/
theorem C16_tie_dns :
    CM.Gen.C16.dnsForgetIsDeferredFirst = true ∧ CM.Gen.C16.dnsDeleteUsesFreshContext = true ∧
    CM.Gen.C16.dnsMemoryByValue = true := ⟨rfl, rfl, rfl⟩

/-- the directory the harness lists for token files -/
theorem C16_tie_tokens_dir : CM.Gen.C16.tokensDir = "challenge_tokens" := rfl

end CM.Tie.C16
