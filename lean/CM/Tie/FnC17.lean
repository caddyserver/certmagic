/-
Ties of the FUNCTION TRANSLATOR (go/extract/fn.go): for each pure function of /repo that the
translator carries across whole (CM/Generated/Fn.lean, regenerated from the source on every
run), the hand-written model function used by the property theorems is PROVED EQUAL to the
translated one for ALL inputs. A change of the Go function that changes its meaning makes the
equality unprovable (the tie breaks; the differential, which also runs the generated definition,
searches for the failing input); a change that keeps its meaning but not its shape can break the
proof script too — then the check reports `no-failing-input-found`.

Trusted: the translator and CM/Lib/GoLite.lean (the Lean reading of Go's statements and of the
white-listed part of package `strings`); both are exercised on every run by executing the
generated definitions in the driver against the real functions.
-/
import CM.Generated.Fn
import CM.Props.C17
namespace CM.Tie.FnC17
open CM.Go CM.RateLimit CM.Gen.Fn

abbrev T := Option Nat

/-- a model state's ring, cursor and window as the translated struct -/
def toRL (ring : List T) (c W : Nat) : RingBufferRateLimiter T := ⟨Int.ofNat W, ring, Int.ofNat c⟩

theorem advance_eq (ring : List T) (c W : Nat) :
    RingBufferRateLimiter_advance (toRL ring c W) = toRL ring (advance ring.length c) W := by
  unfold RingBufferRateLimiter_advance advance toRL lenL
  have t : (Int.ofNat c + 1 ≥ Int.ofNat ring.length) = (c + 1 ≥ ring.length) :=
    propext Int.ofNat_le
  simp only [t, decide_eq_true_eq]
  split <;> rfl

/-- the fast-forward loop's body as the translator prints it -/
def ffwdBody : Int → RingBufferRateLimiter T → Step (RingBufferRateLimiter T) (Option (RingBufferRateLimiter T)) :=
  fun i st => Step.next (RingBufferRateLimiter_advance st)

/-- the fast-forward loop is `advanceN` -/
theorem ffwd_loop (ring : List T) (W : Nat) : ∀ (k i c : Nat),
    forN ffwdBody k i (toRL ring c W) = .next (toRL ring (advanceN k ring.length c) W) := by
  intro k
  induction k with
  | zero => exact fun _ _ => rfl
  | succ k ih =>
    intro i c
    simp only [forN, ffwdBody, advance_eq]
    exact ih (i + 1) _

/-- the copy loop's body as the translator prints it -/
def copyBody (startCursor : Int) : Int → List T × RingBufferRateLimiter T → Step3 (List T × RingBufferRateLimiter T) (Option (RingBufferRateLimiter T)) :=
  fun i st_1 =>
    if ((RingBufferRateLimiter_advance st_1.snd).cursor == startCursor) = true then
      Step3.brk (Go.set st_1.fst i (idx st_1.snd.ring st_1.snd.cursor), RingBufferRateLimiter_advance st_1.snd)
    else
      Step3.next (Go.set st_1.fst i (idx st_1.snd.ring st_1.snd.cursor), RingBufferRateLimiter_advance st_1.snd)

theorem ofNat_beq (a b : Nat) : (Int.ofNat a == Int.ofNat b) = decide (a = b) := by
  rw [Bool.eq_iff_iff]; simp only [beq_iff_eq, Int.ofNat.injEq, decide_eq_true_eq]

theorem copyBody_step (ring : List T) (W start k : Nat) (pre : List T) (c : Nat) :
    copyBody (Int.ofNat start) (Int.ofNat pre.length) (pre ++ List.replicate (k + 1) none, toRL ring c W) =
      if advance ring.length c = start
      then .brk (pre ++ ring.getD c none :: List.replicate k none, toRL ring (advance ring.length c) W)
      else .next (pre ++ ring.getD c none :: List.replicate k none, toRL ring (advance ring.length c) W) := by
  unfold copyBody
  have hi : idx (toRL ring c W).ring (toRL ring c W).cursor = ring.getD c none := rfl
  have hc : (toRL ring (advance ring.length c) W).cursor = Int.ofNat (advance ring.length c) := rfl
  simp only [advance_eq, List.replicate_succ, set_append_length, hi, hc, ofNat_beq, decide_eq_true_eq]

/-- the copy loop writes `copyLoop`'s values behind what was written before and leaves the rest zero -/
theorem copy_loop (ring : List T) (W start : Nat) : ∀ (k : Nat) (pre : List T) (c : Nat),
    ∃ c', forB (copyBody (Int.ofNat start)) k pre.length (pre ++ List.replicate k none, toRL ring c W)
      = .next (pre ++ copyLoop ring start k c ++ List.replicate (k - (copyLoop ring start k c).length) none,
               toRL ring c' W) := by
  intro k
  induction k with
  | zero => exact fun pre c => ⟨c, by simp [forB, copyLoop]⟩
  | succ k ih =>
    intro pre c
    by_cases hb : advance ring.length c = start
    · refine ⟨advance ring.length c, ?_⟩
      simp only [forB, copyBody_step, hb, if_true, copyLoop, List.length_cons, List.length_nil,
        Nat.add_sub_add_right, Nat.sub_zero, List.append_assoc, List.cons_append, List.nil_append]
    · obtain ⟨c', ih⟩ := ih (pre ++ [ring.getD c none]) (advance ring.length c)
      refine ⟨c', ?_⟩
      simp only [forB, copyBody_step, hb, if_false, copyLoop]
      simp only [List.length_append, List.length_cons, List.length_nil, List.append_assoc,
        List.cons_append, List.nil_append, Nat.zero_add] at ih
      rw [ih]
      simp only [List.length_cons, Nat.add_sub_add_right, List.append_assoc, List.cons_append]

/-- **the model's `setMax` step IS the translated `SetMaxEvents`**: for every ring, cursor, window and new
limit — `none` = the panic, otherwise the struct afterwards (ring `resize`d, cursor 0, or untouched). -/
theorem C17_tie_fn_SetMaxEvents (ring : List T) (c W n : Nat) :
    RingBufferRateLimiter_SetMaxEvents (toRL ring c W) (Int.ofNat n) =
      (if n = 0 ∧ W ≠ 0 then none
       else if n = ring.length then some (toRL ring c W)
       else some (toRL (resize ring c n) 0 W)) := by
  have hff := ffwd_loop ring W (ring.length - n) 0 c
  obtain ⟨c', hcp⟩ := copy_loop ring W (advanceN (ring.length - n) ring.length c) n []
    (advanceN (ring.length - n) ring.length c)
  -- `simp only` finds the two loops in the printed function only if their bodies stand unfolded
  unfold ffwdBody at hff
  unfold copyBody at hcp
  unfold RingBufferRateLimiter_SetMaxEvents
  simp only [toRL, List.nil_append, List.length_nil] at hff hcp
  -- the tests of the printed function, on naturals
  have t1 : (Int.ofNat W != 0 && Int.ofNat n == 0) = decide (n = 0 ∧ W ≠ 0) := by
    cases n <;> cases W <;> rfl
  have tn : ∀ m : Nat, (Int.ofNat m).toNat = m := fun _ => rfl
  have tp : (Int.ofNat ring.length > 0) = (ring.length > 0) := propext Int.natCast_pos
  have k : (Int.ofNat ring.length - Int.ofNat n).toNat = ring.length - n := Int.toNat_sub _ _
  have hd : (default : T) = none := rfl
  simp only [toRL, lenL, Go.make, t1, ofNat_beq, k, tn, tp, List.length_replicate, hd, decide_eq_true_eq, hff, hcp]
  unfold resize
  dsimp only
  by_cases hlen : ring.length > 0
  · rw [if_pos hlen, if_pos hlen]; rfl
  · rw [if_neg hlen, if_neg hlen]; rfl


/-- **C17_resize_keeps_newest, of the code as printed**: an effective `SetMaxEvents(n)` (no panic, `n` differs
from the current limit) on a ring whose cursor is in range does not panic and installs — with cursor 0, the window
untouched — the newest `n` timestamps in their order when shrinking, all of them followed by free slots when growing. -/
theorem C17_fn_SetMaxEvents_keeps_newest (ring : List T) (c W n : Nat) (hc : CurOK ring c)
    (hp : ¬ (n = 0 ∧ W ≠ 0)) (hd : n ≠ ring.length) :
    ∃ r', RingBufferRateLimiter_SetMaxEvents (toRL ring c W) (Int.ofNat n) = some r' ∧
      r'.cursor = 0 ∧ r'.window = Int.ofNat W ∧ r'.ring.length = n ∧
      r'.ring = (if n ≤ ring.length then (view ring c).drop (ring.length - n)
                 else view ring c ++ List.replicate (n - ring.length) none) := by
  refine ⟨toRL (resize ring c n) 0 W, ?_, rfl, rfl, (C17_resize_keeps_newest hc n).symm⟩
  rw [C17_tie_fn_SetMaxEvents, if_neg hp, if_neg hd]

/-- … and it panics exactly when asked for no events with a non-zero window -/
theorem C17_fn_SetMaxEvents_panics_iff (ring : List T) (c W n : Nat) :
    RingBufferRateLimiter_SetMaxEvents (toRL ring c W) (Int.ofNat n) = none ↔ (n = 0 ∧ W ≠ 0) := by
  rw [C17_tie_fn_SetMaxEvents]
  by_cases hp : n = 0 ∧ W ≠ 0
  · rw [if_pos hp]; exact ⟨fun _ => hp, fun _ => rfl⟩
  · rw [if_neg hp]
    refine ⟨fun h => ?_, fun h => absurd h hp⟩
    split at h <;> cases h

end CM.Tie.FnC17
