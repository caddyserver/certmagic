/-
The model's `stale` (CM/Model/FileLock.lean) is proved equal, for all inputs, to the definition that the function
translator prints from `fileLockIsStale` on every run (CM/Generated/Fn.lean). What such a tie is worth, what the
check reports when the Go function changes, and what is trusted: DESIGN.md §12.7.
-/
import CM.Generated.Fn
import CM.Model.FileLock
namespace CM.Tie.FnC08
open CM.Go

/-- `time.Since(ref) > 10 s` on instants counted from the zero time, saturation included -/
theorem since_gt (now ref : Nat) :
    decide (time_Sub (Int.ofNat now) (Int.ofNat ref) > (5000000000 : Int) * (2 : Int))
      = decide (now - ref > 2 * 5000000000) := by
  apply decide_eq_decide.mpr
  -- 10 s lies far inside the range of a `Duration`: saturating does not change the comparison
  fun_cases time_Sub (Int.ofNat now) (Int.ofNat ref)
  all_goals simp only [Int.ofNat_eq_natCast, maxDuration, minDuration] at *; omega

/-- **the model's `stale` IS the translated `fileLockIsStale`**, with the constants of the source inside
it (`lockFreshnessInterval` = 5 s, factor 2 = `codeParams`): for all instants (nanoseconds since the zero
time; `0` = the zero `time.Time`), saturation of `time.Since` included. -/
theorem C08_tie_fn_fileLockIsStale (now created updated : Nat) :
    CM.Gen.Fn.fileLockIsStale (Int.ofNat now) ⟨Int.ofNat created, Int.ofNat updated⟩
      = CM.FileLock.stale CM.FileLock.codeParams now created updated := by
  unfold CM.Gen.Fn.fileLockIsStale CM.FileLock.stale CM.FileLock.codeParams
  simp only [since_gt, time_IsZero]
  by_cases hu : updated = 0
  · subst hu; simp
  · simp [hu]

/-- the definition translated from `fileLockIsStale` on this run declares a lock file stale iff more than
10 s (2 × `lockFreshnessInterval`, both from the source) have passed since its `updated` stamp — or since its
`created` stamp when `updated` is the zero time -/
theorem C08_fn_fileLockIsStale_means (now created updated : Nat) :
    CM.Gen.Fn.fileLockIsStale (Int.ofNat now) ⟨Int.ofNat created, Int.ofNat updated⟩ = true ↔
      now - (if updated = 0 then created else updated) > 10000000000 := by
  rw [C08_tie_fn_fileLockIsStale]
  unfold CM.FileLock.stale CM.FileLock.codeParams
  simp

end CM.Tie.FnC08
