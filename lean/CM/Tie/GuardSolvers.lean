import CM.Generated.Guard
import CM.Lib.Guard
/-!
Tie (C16, *guarded state*, verified checker): listener ref-counts (`solvers`), challenge memory (`activeChallenges`) and DNS record memory (`records`).
The skeletons are regenerated from /repo on every run — for EVERY function of the package
that touches the state (the lists are generated, so a new function is covered without
touching this file) — and `decide` runs the verified checker `CM.Guard.fnOK` on them in the
kernel. By `CM.Guard.fnOK_sound`, no execution of an accepted function (any branch, any
number of loop iterations, a panic at any call, its deferred unlock and deferred critical
sections included) accesses the state outside a critical section of its mutex.
-/
namespace CM.Tie.GuardSolvers
open CM.Guard CM.Skel

/-- the translator normalises the family's lock / unlock / access actions to these names -/
def P : Names := { lock := (· == "lock"), unlock := (· == "unlock"), access := (· == "access") }

theorem C16_tie_guard_solvers : ∀ f ∈ CM.Gen.Guard.solvers_funcs, fnOK P f.2 = true := by decide +kernel

/-- lifted by soundness: no execution of the body of such a function violates the discipline (the deferred
critical sections are the second part of `fnOK_sound`) -/
theorem C16_tie_guard_solvers_sound (f : String × Sk) (hf : f ∈ CM.Gen.Guard.solvers_funcs)
    {o : Out} {m : M} {v : Bool} (he : Exec P f.2 .free o m v) : v = false :=
  (fnOK_sound (C16_tie_guard_solvers f hf) he).1

/-- helpers that expect the mutex to be held by their caller: they touch the state only
while it is held and never release it -/
theorem C16_tie_guard_solvers_helpers : ∀ f ∈ CM.Gen.Guard.solvers_helpers, helperOK P f.2 = true := by decide +kernel

/-- the functions the model's atomic steps correspond to are among those checked -/
theorem C16_tie_guard_solvers_covers :
    ["httpSolver.CleanUp", "tlsALPNSolver.CleanUp", "getSolverInfo"].all (fun n => (CM.Gen.Guard.solvers_funcs ++ CM.Gen.Guard.solvers_helpers).any (fun f => f.1 == n)) = true := by decide +kernel

theorem C16_tie_guard_challenges : ∀ f ∈ CM.Gen.Guard.challenges_funcs, fnOK P f.2 = true := by decide +kernel

/-- lifted by soundness: no execution of the body of such a function violates the discipline (the deferred
critical sections are the second part of `fnOK_sound`) -/
theorem C16_tie_guard_challenges_sound (f : String × Sk) (hf : f ∈ CM.Gen.Guard.challenges_funcs)
    {o : Out} {m : M} {v : Bool} (he : Exec P f.2 .free o m v) : v = false :=
  (fnOK_sound (C16_tie_guard_challenges f hf) he).1

/-- the functions the model's atomic steps correspond to are among those checked -/
theorem C16_tie_guard_challenges_covers :
    ["GetACMEChallenge", "solverWrapper.Present", "solverWrapper.CleanUp"].all (fun n => (CM.Gen.Guard.challenges_funcs ++ CM.Gen.Guard.challenges_helpers).any (fun f => f.1 == n)) = true := by decide +kernel

theorem C16_tie_guard_dnsrecords : ∀ f ∈ CM.Gen.Guard.dnsrecords_funcs, fnOK P f.2 = true := by decide +kernel

/-- lifted by soundness: no execution of the body of such a function violates the discipline (the deferred
critical sections are the second part of `fnOK_sound`) -/
theorem C16_tie_guard_dnsrecords_sound (f : String × Sk) (hf : f ∈ CM.Gen.Guard.dnsrecords_funcs)
    {o : Out} {m : M} {v : Bool} (he : Exec P f.2 .free o m v) : v = false :=
  (fnOK_sound (C16_tie_guard_dnsrecords f hf) he).1

/-- the functions the model's atomic steps correspond to are among those checked -/
theorem C16_tie_guard_dnsrecords_covers :
    ["DNSManager.saveDNSPresentMemory", "DNSManager.getDNSPresentMemory", "DNSManager.deleteDNSPresentMemory"].all (fun n => (CM.Gen.Guard.dnsrecords_funcs ++ CM.Gen.Guard.dnsrecords_helpers).any (fun f => f.1 == n)) = true := by decide +kernel

end CM.Tie.GuardSolvers
