import CM.Generated.C07
import CM.Model.Bundle
/-!
Tie for C06/C07 (regenerated facts): the bundle is written key → certificate → metadata
and read in the same order; existence is tested certificate, key, metadata; `storeTx`
loads before it stores and its failure branch rolls back with Store (restore) or Delete.
The exact call sequences are compared by the harness (operation-sequence correspondence).
-/
namespace CM.Tie.C07
open CM.Skel CM.Bundle

theorem C07_tie_write_order :
    CM.Gen.C07.saveOrder = ["SitePrivateKey", "SiteCert", "SiteMeta"] := rfl

theorem C07_tie_read_order :
    CM.Gen.C07.loadOrder = ["SitePrivateKey", "SiteCert", "SiteMeta"] := rfl

theorem C07_tie_exists_order :
    CM.Gen.C07.existsOrder = ["certKey", "keyKey", "metaKey"] := rfl

/-- the model's transaction is three writes in that order, `.key` / `.crt` / `.mta` read as
`SitePrivateKey` / `SiteCert` / `SiteMeta` (the statement mentions no regenerated fact) -/
theorem C07_tie_model_writes (k : KeyId) (c : Crt) :
    saveWrites k c = [.key k, .crt c, .mta c.ser] := rfl

/-- storeTx: loads first, stores next, and rolls back with a restoring Store or a Delete
inside the failure branch of a store -/
theorem C07_tie_storeTx_shape :
    acts CM.Gen.C07.sk_storeTx =
      ["Load", "Store", "Store", "Delete"].map (fun m => CM.Gen.C07.storeTxParam ++ "." ++ m) := by decide +kernel

/-- quarantine: load the key, store the copy, delete the key -/
theorem C07_tie_quarantine_shape :
    before "cfg.Storage.Load" "cfg.Storage.Store" (acts CM.Gen.C07.sk_Config_moveCompromisedPrivateKey) = true ∧
    before "cfg.Storage.Store" "cfg.Storage.Delete" (acts CM.Gen.C07.sk_Config_moveCompromisedPrivateKey) = true := by
  decide +kernel

end CM.Tie.C07
