import CM.Generated.C08
import CM.Model.FileLock
/-!
Tie of the C08 lock-file model to `/repo`'s current `filestorage.go` (facts re-extracted on
every run, `CM/Generated/C08.lean`). Each theorem states that a regenerated constant or
structural fact is the one the LTS `CM.FileLock` (hence every C08 theorem) is about.
-/
namespace CM.Tie.C08
open CM.FileLock

/-- `a` occurs before `b` in `l` -/
def before (a b : String) (l : List String) : Bool :=
  match l.dropWhile (· != a) with
  | [] => false
  | _ :: rest => rest.contains b

/-- lockFreshnessInterval, fileLockPollInterval, the 250 ms retry and the 8 tolerated empty reads are the
model's `codeParams`. (The staleness factor, the strictness of the test and its reference stamp are tied
with the whole function `fileLockIsStale`: CM/Tie/FnC08.lean, C08_tie_fn_fileLockIsStale, with `factor * H` = 10 s
inside it.) -/
theorem C08_tie_constants :
    CM.Gen.C08.lockFreshnessInterval = codeParams.H ∧
    CM.Gen.C08.fileLockPollInterval = codeParams.P ∧ CM.Gen.C08.emptyRetry = codeParams.E ∧
    CM.Gen.C08.maxEmpty = codeParams.N := ⟨rfl, rfl, rfl, rfl⟩

/-- `Lock` waits in exactly two `select`s (the 250 ms retry and the poll), and each has a
`ctx.Done()` arm that returns `ctx.Err()`: the model's `sleepE` / `poll` states with their
`cancel` step (`C08_cancel`, `C08_waits_only_in_select`) -/
theorem C08_tie_selects :
    CM.Gen.C08.lockSelects.length = 2 ∧
    CM.Gen.C08.lockSelects.all (fun arms => arms.contains "ctx:return-err" && arms.length == 2) = true ∧
    CM.Gen.C08.lockSelects.map (·.head?) = [some "timer:250000000", some "timer:fileLockPollInterval"] := ⟨rfl, by decide +kernel, rfl⟩

/-- the loop: create first (nil iff created); then not-exist ⇒ retry, stale ⇒ remove and
retry, otherwise poll — the model's `tryCreate` / `observe` / `remove` -/
theorem C08_tie_loop :
    CM.Gen.C08.createFirstReturnNil = true ∧ CM.Gen.C08.lockSwitchCases = ["notexist", "error", "stale", "default"] ∧
    CM.Gen.C08.staleRemovesAndRetries = true := ⟨rfl, rfl, rfl⟩

/-- the lock file is created with O_CREATE|O_EXCL and the heartbeat goroutine is started
by the creator; Unlock removes the lock file; the file name is the sanitised name -/
theorem C08_tie_create_unlock :
    CM.Gen.C08.createExclusive = true ∧ CM.Gen.C08.createSpawnsHeartbeat = true ∧
    CM.Gen.C08.unlockRemovesLockFile = true ∧ CM.Gen.C08.lockNameSanitised = true := ⟨rfl, rfl, rfl, rfl⟩

/-- the heartbeat sleeps H, then reads, truncates, writes — in this order, three separate
steps (`hbOpen`, `hbTrunc`, `hbWrite`: "empty" is observable in between) -/
theorem C08_tie_heartbeat :
    CM.Gen.C08.heartbeatSleepsH = true ∧
    before "open" "read" CM.Gen.C08.heartbeatSteps = true ∧ before "read" "truncate" CM.Gen.C08.heartbeatSteps = true ∧
    before "truncate" "write" CM.Gen.C08.heartbeatSteps = true := ⟨rfl, by decide +kernel, by decide +kernel, by decide +kernel⟩

/-- D8 repaired: any decode error is counted like an empty file and no branch of `Lock`
returns a decode error (the model's `observe` treats `garbage` like `empty`) -/
theorem C08_tie_d8_undecodable_like_empty : CM.Gen.C08.undecodableLikeEmpty = true := rfl

/-- D18 repaired: the empty-read counter is reset when a lock file was read in full and is
fresh (the model's `observe` goes to `poll 0`) -/
theorem C08_tie_d18_counter_reset : CM.Gen.C08.emptyCountResetOnFreshRead = true := rfl

/-- D21 repaired: the heartbeat ends, before truncating, when the file's `created` stamp is
not its own (the model's `hbOpen` compares `cr = c0`) -/
theorem C08_tie_d21_owner_check :
    CM.Gen.C08.heartbeatChecksOwner = true ∧ before "ownercheck" "truncate" CM.Gen.C08.heartbeatSteps = true := ⟨rfl, by decide +kernel⟩

end CM.Tie.C08
