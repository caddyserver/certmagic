/-
Function tie of C02 (DESIGN.md §12.7): the model's `qualifies` (both hand-written copies, `Lookup.qualifies` and
`Handshake.qualifies`) is proved equal, for all strings, to the definition the translator prints from
`SubjectQualifiesForCert` (CM/Generated/Fn.lean, regenerated from the source on every run).
-/
import CM.Generated.Fn
import CM.Props.C02
import CM.Model.Lookup
namespace CM.Tie.FnC02
open CM.Go CM.Lookup

theorem isSpace_eq : Go.isSpace = Lookup.isSpace := rfl

theorem dropWhile_eq_nil_iff (p : Char → Bool) (x : Str) : x.dropWhile p = [] ↔ ∀ c ∈ x, p c = true := by
  induction x with
  | nil => simp
  | cons a r ih => by_cases ha : p a = true <;> simp [ha, ih]

theorem trimSpace_eq_nil_iff (x : Str) : strings_TrimSpace x = [] ↔ ∀ c ∈ x, Go.isSpace c = true := by
  rw [strings_TrimSpace, List.reverse_eq_nil_iff, dropWhile_eq_nil_iff]
  simp only [List.mem_reverse]
  refine ⟨fun h => (dropWhile_eq_nil_iff _ x).1 ?_, fun h c hc => h c ((List.dropWhile_sublist _).subset hc)⟩
  -- every element of `x.dropWhile isSpace` is a space, but its head (if it has one) is not
  apply Classical.byContradiction
  intro hne
  have := List.head_dropWhile_not Go.isSpace hne
  rw [h _ (List.head_mem hne)] at this
  cases this

theorem trimSpace_eq_nil (x : Str) :
    (strings_TrimSpace x == Go.s "") = !(x.any (fun c => !Lookup.isSpace c)) := by
  rw [← isSpace_eq, Bool.eq_iff_iff]
  simp [Go.s, trimSpace_eq_nil_iff]

theorem isPrefixOf_eq_take (p x : Str) : p.isPrefixOf x = (x.take p.length == p) := by
  rw [Bool.eq_iff_iff, List.isPrefixOf_iff_prefix, List.prefix_iff_eq_take, beq_iff_eq, eq_comm]

theorem hasPrefix_stardot (x : Str) : strings_HasPrefix x (Go.s "*.") = (x.take 2 == ['*', '.']) :=
  isPrefixOf_eq_take ['*', '.'] x

theorem hasPrefix_dot (x : Str) : strings_HasPrefix x (Go.s ".") = (x.head? == some '.') := by
  rw [strings_HasPrefix, isPrefixOf_eq_take]
  cases x <;> simp [Go.s]

theorem hasSuffix_dot (x : Str) : strings_HasSuffix x (Go.s ".") = (x.getLast? == some '.') := by
  rw [List.getLast?_eq_head?_reverse, ← hasPrefix_dot]
  simp [strings_HasSuffix, strings_HasPrefix, List.isSuffixOf, Go.s]

theorem containsAny_forbidden (x : Str) :
    strings_ContainsAny x (Go.s "()[]{}<> \t\n\"\\!@#$%^&|;'+=") = !(x.all (fun c => !forbidden.contains c)) := by
  rw [List.not_all_eq_any_not]
  simp only [Bool.not_not]
  rfl

/-- **the model's `qualifies` IS the translated `SubjectQualifiesForCert`** — for all strings.
(The proof rewrites the seven tests of the printed definition into the model's and then compares the truth
tables of the two Boolean combinations, so it does not depend on whether the source spells the conjunction as
one `&&` chain or as early returns.) -/
theorem C02_tie_fn_SubjectQualifiesForCert (subj : Str) :
    CM.Gen.Fn.SubjectQualifiesForCert subj = qualifies subj := by
  have hs : Go.s "*" = ['*'] := rfl
  unfold CM.Gen.Fn.SubjectQualifiesForCert qualifies
  simp only [trimSpace_eq_nil, hasPrefix_dot, hasSuffix_dot, hasPrefix_stardot,
    containsAny_forbidden, hs, strings_Contains_single, bne]
  generalize (subj.any fun c => !Lookup.isSpace c) = a
  generalize (subj.head? == some '.') = b
  generalize (subj.getLast? == some '.') = c
  generalize (subj.contains '*') = d
  generalize (List.take 2 subj == ['*', '.']) = e
  generalize (subj == ['*']) = f
  generalize (subj.all fun c => !forbidden.contains c) = g
  revert a b c d e f g
  decide

theorem hs_isSpace_eq : CM.Handshake.isSpace = CM.Lookup.isSpace := by
  funext c
  unfold CM.Handshake.isSpace CM.Lookup.isSpace
  simp only [← Char.toNat_inj]
  simp

/-- C02's theorems are stated about `Handshake.qualifies`, a second hand-written copy of the function: it is
the same function as `Lookup.qualifies` — and hence as the translated `SubjectQualifiesForCert` -/
theorem C02_tie_fn_handshake_qualifies (s : Str) :
    CM.Gen.Fn.SubjectQualifiesForCert s = CM.Handshake.qualifies s := by
  rw [C02_tie_fn_SubjectQualifiesForCert]
  unfold CM.Handshake.qualifies CM.Handshake.startsWith CM.Handshake.endsWithDot
  have h2 : ['.'].isPrefixOf s = (s.head? == some '.') := hasPrefix_dot s
  rw [h2, isPrefixOf_eq_take, hs_isSpace_eq, ← Bool.beq_eq_decide_eq, ← Bool.beq_eq_decide_eq, List.not_all_eq_any_not, List.not_any_eq_all_not]
  rfl

/-- **C02_qualifies, of the code as printed**: the definition translated from `SubjectQualifiesForCert` on this
run accepts a subject iff it is not malformed (blank, leading / trailing dot, misplaced `*`, forbidden character). -/
theorem C02_fn_SubjectQualifiesForCert_exactly (s : Str) :
    CM.Gen.Fn.SubjectQualifiesForCert s = true ↔ ¬ CM.Props.C02.Malformed s := by
  rw [C02_tie_fn_handshake_qualifies]
  exact CM.Props.C02.C02_qualifies s

end CM.Tie.FnC02
