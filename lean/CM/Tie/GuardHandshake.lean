import CM.Generated.Guard
import CM.Lib.Guard
/-!
Tie (C13, *guarded state*, verified checker): the two single-flight maps `certLoadWaitChans` / `obtainCertWaitChans` and their mutexes.
The skeletons are regenerated from /repo on every run — for EVERY function of the package
that touches the state (the lists are generated, so a new function is covered without
touching this file) — and `decide +kernel` runs the verified checker `CM.Guard.fnOK` on them in the
kernel. By `CM.Guard.fnOK_sound`, no execution of an accepted function (any branch, any
number of loop iterations, a panic at any call, its deferred unlock and deferred critical
sections included) accesses the state outside a critical section of its mutex.
-/
namespace CM.Tie.GuardHandshake
open CM.Guard CM.Skel

/-- the translator normalises the family's lock / unlock / access actions to these names -/
def P : Names := { lock := (· == "lock"), unlock := (· == "unlock"), access := (· == "access") }

theorem C13_tie_guard_loadwait : ∀ f ∈ CM.Gen.Guard.loadwait_funcs, fnOK P f.2 = true := by decide +kernel

/-- lifted by soundness: no execution of the body of such a function violates the discipline (the deferred
critical sections are the second part of `fnOK_sound`) -/
theorem C13_tie_guard_loadwait_sound (f : String × Sk) (hf : f ∈ CM.Gen.Guard.loadwait_funcs)
    {o : Out} {m : M} {v : Bool} (he : Exec P f.2 .free o m v) : v = false :=
  (fnOK_sound (C13_tie_guard_loadwait f hf) he).1

/-- the functions the model's atomic steps correspond to are among those checked -/
theorem C13_tie_guard_loadwait_covers :
    ["Config.getCertDuringHandshake"].all (fun n => (CM.Gen.Guard.loadwait_funcs ++ CM.Gen.Guard.loadwait_helpers).any (fun f => f.1 == n)) = true := by decide +kernel

theorem C13_tie_guard_obtainwait : ∀ f ∈ CM.Gen.Guard.obtainwait_funcs, fnOK P f.2 = true := by decide +kernel

/-- lifted by soundness: no execution of the body of such a function violates the discipline (the deferred
critical sections are the second part of `fnOK_sound`) -/
theorem C13_tie_guard_obtainwait_sound (f : String × Sk) (hf : f ∈ CM.Gen.Guard.obtainwait_funcs)
    {o : Out} {m : M} {v : Bool} (he : Exec P f.2 .free o m v) : v = false :=
  (fnOK_sound (C13_tie_guard_obtainwait f hf) he).1

/-- the functions the model's atomic steps correspond to are among those checked -/
theorem C13_tie_guard_obtainwait_covers :
    ["Config.obtainOnDemandCertificate", "Config.renewDynamicCertificate"].all (fun n => (CM.Gen.Guard.obtainwait_funcs ++ CM.Gen.Guard.obtainwait_helpers).any (fun f => f.1 == n)) = true := by decide +kernel

end CM.Tie.GuardHandshake
