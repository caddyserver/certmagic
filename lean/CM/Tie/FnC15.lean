/-
Function-translator tie for C15: `LooksLikeHTTPChallenge` (httphandlers.go), printed from its Go body into
CM/Generated/Fn.lean on every run, is proved equal for all requests to the two tests at the head of the
model's `httpAnswer`. What such a tie shows when it breaks, and what is trusted (the translator,
CM/Lib/GoLite.lean): DESIGN.md §12.7.
-/
import CM.Generated.Fn
import CM.Proofs.Challenge
namespace CM.Tie.FnC15
open CM.Go  -- for `Str` in the second statement: `CM.Go.Str`, which like `CM.Challenge.Str` is `List Char`

/-- the translated function is the model's `GET` test and base-path prefix test … -/
theorem C15_tie_fn_LooksLikeHTTPChallenge (r : CM.Challenge.HttpReq) :
    CM.Gen.Fn.LooksLikeHTTPChallenge ⟨r.method, ⟨r.path⟩⟩
      = (r.method == CM.Challenge.GET && CM.Challenge.basePath.isPrefixOf r.path) := rfl

/-- … and a request that does not look like a challenge is passed on, whatever else holds -/
theorem C15_tie_fn_not_looking_passes (E : CM.Challenge.Env) (S : CM.Challenge.State) (n : Nat)
    (ps : List Str) (disabled : Bool) (r : CM.Challenge.HttpReq)
    (h : CM.Gen.Fn.LooksLikeHTTPChallenge ⟨r.method, ⟨r.path⟩⟩ = false) :
    CM.Challenge.httpAnswer E S n ps disabled r = .pass := by
  rw [C15_tie_fn_LooksLikeHTTPChallenge] at h
  cases hh : CM.Challenge.httpAnswer E S n ps disabled r with
  | pass => rfl
  | serve body =>
    obtain ⟨_, hm, hp, _⟩ := CM.Challenge.httpAnswer_eq_serve.mp hh
    rw [hp, beq_iff_eq.mpr hm] at h
    cases h

end CM.Tie.FnC15
