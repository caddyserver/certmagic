import CM.Generated.C01
/-!
Tie for C01: structural facts of `obtainCert` / `renewCert` (regenerated skeletons) that the
LTS relies on: the issuer call, the save and the retry wrapper all lie after the acquire,
whose very next statement registers the deferred release; inside the lock a storage
re-check precedes the issuer call. (The behavioural tie is the trace validation.)
-/
namespace CM.Tie.C01
open CM.Skel

theorem C01_tie_obtain_inside_lock :
    insideLock CM.Gen.C01.sk_Config_obtainCert ["issuer.Issue", "cfg.saveCertResource", "doWithRetry"]
      "cfg.storageHasCertResourcesAnyIssuer" = true ∧
    deferRightAfterAcq CM.Gen.C01.sk_Config_obtainCert = true := by decide +kernel

theorem C01_tie_renew_inside_lock :
    insideLock CM.Gen.C01.sk_Config_renewCert ["issuer.Issue", "cfg.saveCertResource", "doWithRetry"]
      "cfg.managedCertNeedsRenewal" = true ∧
    deferRightAfterAcq CM.Gen.C01.sk_Config_renewCert = true := by decide +kernel

/-- obtain's unlocked pre-check exists (the LTS's `pre` for obtain) and renew has none -/
theorem C01_tie_prechecks :
    (match splitAtAcq CM.Gen.C01.sk_Config_obtainCert with
     | some (pre, _) => pre.contains "cfg.storageHasCertResourcesAnyIssuer"
     | none => false) = true ∧
    (match splitAtAcq CM.Gen.C01.sk_Config_renewCert with
     | some (pre, _) => !pre.contains "cfg.loadCertResourceAnyIssuer"
     | none => false) = true := by decide +kernel

/-- manageOne loads first and only then obtains or renews -/
theorem C01_tie_manage_loads_first :
    before "cfg.CacheManagedCertificate" "cfg.ObtainCertSync" (acts CM.Gen.C01.sk_Config_manageOne) = true ∧
    before "cfg.CacheManagedCertificate" "cfg.RenewCertSync" (acts CM.Gen.C01.sk_Config_manageOne) = true := by decide +kernel

/-- the save is the transactional store of the three keys -/
theorem C01_tie_save_is_storeTx :
    (acts CM.Gen.C01.sk_Config_saveCertResource).contains "storeTx" = true ∧
    before (CM.Gen.C01.storeTxParam ++ ".Store") (CM.Gen.C01.storeTxParam ++ ".Delete") (acts CM.Gen.C01.sk_storeTx) = true := by decide +kernel

theorem C01_tie_lock_name : CM.Gen.C01.certIssueLockOp = "issue_cert" := rfl

end CM.Tie.C01
