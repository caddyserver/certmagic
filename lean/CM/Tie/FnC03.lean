/-
The model's `matchWildcard`, `expiresAt` and `normASCII` are PROVED EQUAL, for all inputs, to the
definitions the function translator prints from `MatchWildcard`, `expiresAt` and `normalizedName`
(CM/Generated/Fn.lean, regenerated on every run). What such a tie means, what breaks it and what is
trusted (the translator, CM/Lib/GoLite.lean): DESIGN.md §12.7.
-/
import CM.Generated.Fn
import CM.Props.C03
import CM.Model.Lookup
namespace CM.Tie.FnC03
open CM.Go CM.Lookup

theorem split1_dot (x : Str) : strings_Split1 (Char.ofNat 46) x = splitDot x := by
  induction x with
  | nil => rfl
  | cons c r ih =>
    -- the two definitions are the same text; after `ih` the sides differ in the name of the compiled `match` only
    rw [strings_Split1, splitDot, ih]; rfl

theorem join_dot : ∀ xs : List Str, strings_Join xs (Go.s ".") = joinDot xs
  | [] => rfl
  | [_] => rfl
  | l :: m :: r => by
    show l ++ Go.s "." ++ strings_Join (m :: r) (Go.s ".") = l ++ '.' :: joinDot (m :: r)
    rw [join_dot (m :: r), List.append_assoc]
    rfl

/-- the loop body of `MatchWildcard` as the translator prints it -/
def mwBody (wildcard : Str) : Int → List Str → Step (List Str) Bool := fun i st =>
  let labels := st
  if ((Go.idx labels i) == (Go.s "")) then
    .next labels
  else
  let labels := Go.set labels i (Go.s "*")
  let candidate := (Go.strings_Join labels (Go.s "."))
  if (candidate == wildcard) then
    .ret true
  else
  .next labels

def fin : Step (List Str) Bool → Bool
  | .ret v => v
  | .next _ => false

theorem mw_loop (w : Str) : ∀ (rest pre : List Str),
    fin (forN (mwBody w) rest.length pre.length (pre ++ rest)) = mwLoop w pre rest
  | [], pre => by simp [forN, fin, mwLoop]
  | l :: rest, pre => by
    -- the rest of the loop, after `x` has been written in the place of `l`
    have ih : ∀ x, fin (forN (mwBody w) rest.length (pre.length + 1) (pre ++ x :: rest)) =
        mwLoop w (pre ++ [x]) rest := by
      intro x
      have := mw_loop w rest (pre ++ [x])
      rwa [List.length_append, List.append_assoc] at this
    simp only [List.length_cons, forN, mwBody, idx_append_length, set_append_length, join_dot]
    by_cases hl : l = []
    · simp [hl, Go.s, mwLoop, ← ih]
    · by_cases hc : joinDot (pre ++ ['*'] :: rest) = w
      · simp [hl, hc, Go.s, mwLoop, fin, star]
      · simp [hl, hc, Go.s, mwLoop, star, ← ih]

/-- the translated definition, with the loop body and the final `match` named (by `rfl`: this is
the generated text itself) -/
theorem gen_MatchWildcard_unfold (subject wildcard : Str) :
    CM.Gen.Fn.MatchWildcard subject wildcard =
      (if (strings_ToLower subject == strings_ToLower wildcard) then true
       else if (!(strings_Contains (strings_ToLower wildcard) (Go.s "*"))) then false
       else fin (forN (mwBody (strings_ToLower wildcard))
              (strings_Split1 (Char.ofNat 46) (strings_ToLower subject)).length 0
              (strings_Split1 (Char.ofNat 46) (strings_ToLower subject)))) := rfl

/-- **the model's `matchWildcard` IS the translated `MatchWildcard`** (on the lower-cased
arguments, which is where the model starts) — for all strings. -/
theorem C03_tie_fn_MatchWildcard (subject wildcard : Str) :
    CM.Gen.Fn.MatchWildcard subject wildcard
      = matchWildcard (strings_ToLower subject) (strings_ToLower wildcard) := by
  have hloop := mw_loop (strings_ToLower wildcard) (splitDot (strings_ToLower subject)) []
  simp only [List.nil_append, List.length_nil] at hloop
  have hs : Go.s "*" = ['*'] := rfl
  rw [gen_MatchWildcard_unfold, split1_dot, hs, strings_Contains_single, hloop]
  unfold matchWildcard
  simp

/-- **the model's `expiresAt` IS the translated `expiresAt`** on a certificate (NotAfter truncated to the
second, plus one second), and the translated function returns the zero time for a nil certificate. -/
theorem C03_tie_fn_expiresAt (na : Int) :
    CM.Gen.Fn.expiresAt (some ⟨na⟩) = CM.Lookup.expiresAt na ∧ CM.Gen.Fn.expiresAt none = 0 := by
  constructor
  · unfold CM.Gen.Fn.expiresAt CM.Lookup.expiresAt CM.Lookup.sec
    show (na - na % 1000000000 + 1000000000 : Int) = na / 1000000000 * 1000000000 + 1000000000
    omega
  · rfl

/-- **the model's `normASCII` IS the translated `normalizedName`** (`strings.ToLower(strings.TrimSpace(..))`;
lower-casing on ASCII — for other input the harness hands the model Go's own result) -/
theorem C03_tie_fn_normalizedName (serverName : Str) :
    CM.Gen.Fn.normalizedName serverName = CM.Lookup.normASCII serverName := rfl

/-- **C03_covers_iff_matchWildcard, of the code as printed**: the definition translated from `MatchWildcard` on
this run accepts (subject, wildcard) iff, after lower-casing, the wildcard is the subject itself or the subject
with its leftmost 1…k labels replaced by `*` (subjects without empty labels). -/
theorem C03_fn_MatchWildcard_covers (subject wildcard : Str)
    (hn : ∀ l ∈ splitDot (strings_ToLower subject), l ≠ []) :
    CM.Gen.Fn.MatchWildcard subject wildcard = true ↔
      (strings_ToLower subject = strings_ToLower wildcard ∨
       ∃ k, 1 ≤ k ∧ k ≤ (splitDot (strings_ToLower subject)).length ∧
         strings_ToLower wildcard = wildAt (strings_ToLower subject) k) := by
  rw [C03_tie_fn_MatchWildcard]
  exact C03_covers_iff_matchWildcard _ _ hn

end CM.Tie.FnC03
