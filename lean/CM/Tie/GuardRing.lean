import CM.Generated.Guard
import CM.Lib.Guard
/-!
Tie (C17, *guarded state*, verified checker): the rate limiter's `ring`/`cursor` under `r.mu` and the package map `rateLimiters`.
The skeletons are regenerated from /repo on every run — for EVERY function of the package
that touches the state (the lists are generated, so a new function is covered without
touching this file) — and `decide` runs the verified checker `CM.Guard.fnOK` on them in the
kernel. By `CM.Guard.fnOK_sound`, no execution of an accepted function (any branch, any
number of loop iterations, a panic at any call, its deferred unlock and deferred critical
sections included) accesses the state outside a critical section of its mutex.
-/
namespace CM.Tie.GuardRing
open CM.Guard CM.Skel

/-- the translator normalises the family's lock / unlock / access actions to these names -/
def P : Names := { lock := (· == "lock"), unlock := (· == "unlock"), access := (· == "access") }

/-- not claimed: `RingBufferRateLimiter.loop` reads the state once without the mutex (`len(r.ring)` in the
scheduling goroutine — noted in DESIGN.md under C17, outside the property's statement) -/
def ring_excluded : List String := ["RingBufferRateLimiter.loop"]

theorem C17_tie_guard_ring :
    ∀ f ∈ CM.Gen.Guard.ring_funcs, ring_excluded.contains f.1 = true ∨ fnOK P f.2 = true := by decide +kernel

/-- lifted by soundness: no execution of the body of such a function violates the discipline (the deferred
critical sections are the second part of `fnOK_sound`) -/
theorem C17_tie_guard_ring_sound (f : String × Sk) (hf : f ∈ CM.Gen.Guard.ring_funcs)
    (hx : ring_excluded.contains f.1 = false) {o : Out} {m : M} {v : Bool} (he : Exec P f.2 .free o m v) : v = false :=
  (fnOK_sound ((C17_tie_guard_ring f hf).resolve_left (by rw [hx]; decide)) he).1

/-- helpers that expect the mutex to be held by their caller: they touch the state only
while it is held and never release it -/
theorem C17_tie_guard_ring_helpers : ∀ f ∈ CM.Gen.Guard.ring_helpers, helperOK P f.2 = true := by decide +kernel

/-- the functions the model's atomic steps correspond to are among those checked -/
theorem C17_tie_guard_ring_covers :
    ["RingBufferRateLimiter.permit", "RingBufferRateLimiter.SetMaxEvents", "RingBufferRateLimiter.SetWindow", "RingBufferRateLimiter.advance"].all (fun n => (CM.Gen.Guard.ring_funcs ++ CM.Gen.Guard.ring_helpers).any (fun f => f.1 == n)) = true := by decide +kernel

theorem C17_tie_guard_ratelimiters : ∀ f ∈ CM.Gen.Guard.ratelimiters_funcs, fnOK P f.2 = true := by decide +kernel

/-- lifted by soundness: no execution of the body of such a function violates the discipline (the deferred
critical sections are the second part of `fnOK_sound`) -/
theorem C17_tie_guard_ratelimiters_sound (f : String × Sk) (hf : f ∈ CM.Gen.Guard.ratelimiters_funcs)
    {o : Out} {m : M} {v : Bool} (he : Exec P f.2 .free o m v) : v = false :=
  (fnOK_sound (C17_tie_guard_ratelimiters f hf) he).1

/-- the functions the model's atomic steps correspond to are among those checked -/
theorem C17_tie_guard_ratelimiters_covers :
    ["acmeClient.throttle"].all (fun n => (CM.Gen.Guard.ratelimiters_funcs ++ CM.Gen.Guard.ratelimiters_helpers).any (fun f => f.1 == n)) = true := by decide +kernel

/-- writes to the map need the EXCLUSIVE lock (vocabulary: `Lock`/`Unlock` only, accesses =
map writes and deletes only): nobody adds a limiter while holding merely the read lock -/
theorem C17_tie_guard_ratelimiters_writes_exclusive :
    ∀ f ∈ CM.Gen.Guard.ratelimitersw_funcs, fnOK P f.2 = true := by decide +kernel

/-- look-up and creation of a CA/account's limiter are ONE critical section: `throttle` takes
the map's mutex exactly once (a second acquisition between the two would let simultaneous
first uses each create their own limiter — every access still "under the lock") -/
theorem C17_tie_throttle_one_critical_section :
    (CM.Gen.Guard.ratelimiters_funcs.filter (fun f => f.1 == "acmeClient.throttle")).map
      (fun f => ((CM.Skel.acts f.2).filter (· == "lock")).length) = [1] := by decide +kernel

end CM.Tie.GuardRing
