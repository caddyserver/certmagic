import CM.Generated.C12
import CM.Model.Cache
/-!
Tie of the C12 model to the current source (regenerated on every run).

The sequential model of `CM/Model/Cache.lean` treats every operation as one atomic step.
That is justified by facts about the regenerated skeletons of EVERY function of the package that
touches `Cache.cache` / `Cache.cacheIndex`. The first two are established in `CM/Tie/GuardCache.lean`
by the verified checker (`CM.Guard.fnOK`, `helperOK`); the `chk` of this file, with `guardedFunction`
and `mapsOnlyUnderMu`, is a hand-written check of the same two that no theorem states. The others
are the theorems here:

* every read, write, delete, `len`, `range` of the two maps and every call of the two
  "unsynced" helpers happens while `Cache.mu` is held (on every path through the function,
  including closures, which start with the lock not held);
* the helpers themselves only access the maps and never release the lock;
* the functions that store a *copy* of a certificate back into the cache (the handshake's
  maintenance and the staple update) do so inside the comma-ok guard
  `if _, ok := cache[hash]; ok { … }` in the same critical section (fix D6);
* the capacity test is `Capacity > 0 && size >= Capacity`;
* the functions that modify the maps are exactly the ones the model's events were written from.
-/
namespace CM.Tie.C12
open CM.Gen.C12

def accesses : List String :=
  ["read:cache", "write:cache", "del:cache", "len:cache", "range:cache", "escape:cache",
   "read:cacheIndex", "write:cacheIndex", "del:cacheIndex", "len:cacheIndex", "range:cacheIndex",
   "escape:cacheIndex", "call:removeCertificate", "call:unsyncedCacheCertificate"]

def modifications : List String :=
  ["write:cache", "del:cache", "write:cacheIndex", "del:cacheIndex",
   "call:removeCertificate", "call:unsyncedCacheCertificate"]

def helpers : List String := ["Cache.removeCertificate", "Cache.unsyncedCacheCertificate"]

/-- abstract interpretation of a skeleton with the flag "Cache.mu is held":
`(every access happens while held, flags possible when control falls through)` -/
def chk : Sk → Bool → Bool × List Bool
  | .skip, h => (true, [h])
  | .ret, _ => (true, [])
  | .act a, h =>
    if a = "lock" ∨ a = "rlock" then (!h, [true])            -- never re-entered
    else if a = "unlock" ∨ a = "runlock" then (h, [false])    -- only released when held
    else if a ∈ accesses then (h, [h])
    else (true, [h])
  | .seq a b, h =>
    let ra := chk a h
    let rs := ra.2.eraseDups.map (chk b)
    (ra.1 && rs.all (·.1), (rs.flatMap (·.2)).eraseDups)
  | .br _ t e, h =>
    let rt := chk t h
    let re := chk e h
    (rt.1 && re.1, (rt.2 ++ re.2).eraseDups)
  | .loop b, h =>
    let rb := chk b h
    (rb.1 && rb.2.all (· == h), [h])
  | .dfr b, h =>
    match b with
    | .act _ => (true, [h])           -- `defer mu.(R)Unlock()`: held until the function returns
    | _ => ((chk b false).1, [h])
  | .fn b, h => ((chk b false).1, [h])   -- a closure / goroutine starts without the lock

/-- does the function modify the maps? -/
def modifies : Sk → Bool
  | .act a => decide (a ∈ modifications)
  | .seq a b => modifies a || modifies b
  | .br _ t e => modifies t || modifies e
  | .loop b => modifies b
  | .dfr b => modifies b
  | .fn b => modifies b
  | _ => false

/-- every `write:cache` lies in the then-branch of a comma-ok guard on the same map -/
def writesGuarded : Sk → Bool → Bool
  | .act a, g => if a = "write:cache" then g else true
  | .seq a b, g => writesGuarded a g && writesGuarded b g
  | .br guard t e, g => writesGuarded t (g || guard) && writesGuarded e g
  | .loop b, g => writesGuarded b g
  | .dfr b, g => writesGuarded b g
  | .fn b, g => writesGuarded b g
  | _, _ => true

/-- the function takes the cache's write or read lock itself (an entry point, not a helper
that expects its caller to hold it) -/
def takesLock : Sk → Bool
  | .act a => a == "lock" || a == "rlock"
  | .seq a b => takesLock a || takesLock b
  | .br _ t e => takesLock t || takesLock e
  | .loop b => takesLock b
  | .dfr b => takesLock b
  | .fn b => takesLock b
  | _ => false

def guardedFunction (p : String × Sk) : Bool :=
  if p.1 ∈ helpers then
    let r := chk p.2 true
    r.1 && r.2.all (· == true)
  else (chk p.2 false).1

/-- linearisability of the real cache to the sequential model: maps only under `mu`.
(No theorem states this hand-written predicate; the claim is carried by the VERIFIED checker in
`CM/Tie/GuardCache.lean` — `CM.Guard.fnOK_sound` — which also tolerates the extraction of new
unexported helpers.) -/
def mapsOnlyUnderMu : Bool := funcs.all guardedFunction

/-- something was found (the fact above is not vacuous) and the helpers are among it -/
theorem C12_tie_functions_found :
    helpers.all (fun h => funcs.any (fun p => p.1 = h)) = true ∧ funcs.length ≥ 10 := by decide +kernel

/-- every function that takes the lock and modifies the maps (an entry point of the cache) is
one the model's events were written from, and the main ones are present (unexported helpers
that expect the lock to be held — `removeCertificate`, `unsyncedCacheCertificate`, or a newly
extracted one — are covered by `CM/Tie/GuardCache`):
`add` (cacheCertificate → unsyncedCacheCertificate), `remove`/`removeManaged` (Remove),
`replace` (replaceCertificate), `removeCopy` (RenewManagedCertificates' delete queue,
queueRenewalTask, forceRenew, renewDynamicCertificate), `ariWB` (updateOCSPStaples,
updateARI), `hsWB` (handshakeMaintenance) -/
theorem C12_tie_writers_modelled :
    ((funcs.filter (fun p => modifies p.2 && takesLock p.2)).map (·.1)).all (fun n =>
      ["Cache.Remove", "Cache.RenewManagedCertificates", "Cache.cacheCertificate", "Cache.queueRenewalTask",
       "Cache.replaceCertificate", "Cache.updateOCSPStaples", "Config.forceRenew", "Config.handshakeMaintenance",
       "Config.renewDynamicCertificate", "Config.updateARI"].contains n) = true ∧
    ["Cache.cacheCertificate", "Cache.replaceCertificate", "Cache.Remove", "Config.handshakeMaintenance",
     "Config.updateARI", "Cache.updateOCSPStaples"].all (fun n => funcs.any (fun p => p.1 = n && modifies p.2)) = true := by
  decide +kernel

/-- the two places that store a copy made outside the lock do it under the comma-ok guard -/
theorem C12_tie_writebacks_guarded :
    (funcs.filter (fun p => p.1 = "Config.handshakeMaintenance" ∨ p.1 = "Cache.updateOCSPStaples")).map
      (fun p => writesGuarded p.2 false) = [true, true] := by decide +kernel

/-- the capacity test is the model's `atCapacity` -/
theorem C12_tie_at_capacity :
    atCapacityExpr = ["CAP", ">", "0", "&&", "SIZE", ">=", "CAP"] := rfl

/-- the checker does reject an unguarded access and an unguarded write-back -/
example : (chk (.seq (.act "lock") (.seq (.act "unlock") (.act "write:cache"))) false).1 = false := by decide +kernel
example : (chk (.seq (.act "lock") (.seq (.br false (.seq (.act "unlock") .ret) .skip)
    (.seq (.act "write:cache") (.act "unlock")))) false).1 = true := by decide +kernel
example : writesGuarded (.seq (.act "lock") (.seq (.act "write:cache") (.act "unlock"))) false = false := by decide +kernel

end CM.Tie.C12
