import CM.Generated.C18
import CM.Model.Clean
/-!
Tie of the C18 model to `maintain.go` (facts regenerated from the source on every run).
Constants and literals are compared with the model's; the shape facts are named
predicates over the regenerated action list / normalised comparisons, not the spelling
of the statements. The behavioural differential on the real `CleanStorage` decides the rest.
-/
namespace CM.Tie.C18
open CM.Clean

/-- string tests on character lists (these reduce in the kernel) -/
def pre (p a : String) : Bool := p.toList.isPrefixOf a.toList
def suf (p a : String) : Bool := p.toList.reverse.isPrefixOf a.toList.reverse


/-- key prefixes, the record's key and the lock name are the model's -/
theorem C18_tie_constants :
    CM.Gen.C18.prefixOCSP.toList = ocspC ∧ CM.Gen.C18.prefixCerts.toList = certsC ∧
    CM.Gen.C18.storageKey.toList = lastC ∧ CM.Gen.C18.lockName.toList = lockName := ⟨rfl, rfl, rfl, rfl⟩

/-- only `.crt` entries are examined (others `continue`), the related assets are the same
base name with `.key` and `.json` -/
theorem C18_tie_extensions :
    CM.Gen.C18.crtExtLit.toList = crtExt ∧ CM.Gen.C18.crtExtOp = "!= continue" ∧
    CM.Gen.C18.trimSuffix = "assetKey|.crt" ∧
    CM.Gen.C18.relatedSuffixes.map String.toList = [keyExt, jsonExt] := ⟨rfl, rfl, rfl, rfl⟩

/-- the comparisons: expired-for = `time.Since(expiresAt(cert))` compared `>= gracePeriod`;
a staple goes when `time.Now().After(NextUpdate)`; a cleaning is skipped when
`time.Since(Timestamp) < Interval`, and only if `Interval > 0` -/
theorem C18_tie_comparisons :
    CM.Gen.C18.graceOp = "lhs>=grace" ∧ CM.Gen.C18.expiredForIsSinceExpiresAt = true ∧
    CM.Gen.C18.stapleAfterNextUpdate = true ∧ CM.Gen.C18.intervalIsSinceLess = true ∧
    CM.Gen.C18.intervalGuard = "opts.Interval > 0" := ⟨rfl, rfl, rfl, rfl, rfl⟩

/-- every listing is non-recursive (walk depth: ocsp/ children; certificates/issuer/site/asset) -/
theorem C18_tie_walk :
    CM.Gen.C18.listCalls.all (fun c => suf ":false" c) = true ∧
    CM.Gen.C18.listCalls.take 2 = ["deleteOldOCSPStaples:ocsp:false", "deleteExpiredCerts:certificates:false"] ∧
    CM.Gen.C18.listCalls.length = 5 ∧
    CM.Gen.C18.stapleLoopDepth = 1 ∧ CM.Gen.C18.certLoopDepth = 4 := ⟨by decide +kernel, rfl, rfl, rfl, rfl⟩

/-- each pass runs only under its option -/
theorem C18_tie_options :
    CM.Gen.C18.passGuards = [("opts.OCSPStaples", "deleteOldOCSPStaples"), ("opts.ExpiredCerts", "deleteExpiredCerts")] := rfl

/-- a lock-manipulating or concurrency action -/
def lockish (a : String) : Bool :=
  pre "acq" a || pre "releaseLock" a || pre "defer:releaseLock" a || pre "defer:acq" a || a = "go"

/-- does the action touch the storage? -/
def touches (a : String) : Bool :=
  pre "storage." a || a = "deleteOldOCSPStaples" || a = "deleteExpiredCerts"

/-- `lockedShape`: the function begins by acquiring the lock (returning if that fails),
immediately defers its release, and contains no other lock handling and no goroutine —
so every storage action that follows runs inside the critical section -/
def lockedShape (name : String) (l : List String) : Bool :=
  match l with
  | a :: d :: rest =>
    a.toList = "acqOrRet:".toList ++ name.toList && d.toList = "defer:releaseLock:".toList ++ name.toList && rest.all (fun x => !lockish x) &&
    rest.any touches
  | _ => false

/-- **C18_locked, structural half**: `CleanStorage` has the locked shape for `storage_clean`,
and neither deletion pass handles locks or starts goroutines -/
theorem C18_tie_locked :
    lockedShape CM.Gen.C18.lockName CM.Gen.C18.cleanActions = true ∧ CM.Gen.C18.helperLockOrGo = [] := ⟨by decide +kernel, rfl⟩

/-- `pat` occurs in `l` in this order -/
def subseq : List String → List String → Bool
  | [], _ => true
  | _ :: _, [] => false
  | a :: as, b :: bs => if a = b then subseq as bs else subseq (a :: as) bs

/-- the order the model follows: interval check (Load), staple pass, certificate pass,
then the record (Store) -/
theorem C18_tie_order :
    subseq ["storage.Load:last_clean.json", "deleteOldOCSPStaples", "deleteExpiredCerts", "storage.Store:last_clean.json"]
      CM.Gen.C18.cleanActions = true ∧
    (CM.Gen.C18.cleanActions.filter touches).length = 4 := by decide +kernel

/-- D20 repaired: the removal of an emptied site key is guarded by a check that skips
terminal keys (the model removes a site key only if it is a directory) -/
theorem C18_tie_site_folder_guard : CM.Gen.C18.siteDeleteGuardedByIsTerminal = true := rfl

end CM.Tie.C18
