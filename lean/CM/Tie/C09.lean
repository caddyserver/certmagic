import CM.Generated.C09
import CM.Props.C09
/-!
Tie for C09: the skeletons below are regenerated from /repo on every run; the list of
functions is itself generated (every function of the package that calls `acquireLock`),
so a new caller is covered without touching this file. `decide` runs the verified checker
in the kernel.
-/
namespace CM.Tie.C09
open CM.Skel

/-- every caller of `acquireLock` passes the lock-discipline checker … -/
theorem C09_tie_all_callers_disciplined :
    ∀ c ∈ CM.Gen.C09.lockCallers, check c.2 0 = some 0 := by decide +kernel

/-- … hence (soundness) none of them can be left, on any path, with a lock pending -/
theorem C09_tie_no_caller_leaks (c : String × Sk) (hc : c ∈ CM.Gen.C09.lockCallers)
    (o : Out) (r : Nat) (he : Exec c.2 0 o r) : r = 0 :=
  C09_lock_discipline_sound c.2 (C09_tie_all_callers_disciplined c hc) o r he

/-- the operations the property names are among them -/
theorem C09_tie_expected_callers :
    ["Config.obtainCert", "Config.renewCert", "Config.updateARI", "CleanStorage",
     "ACMEIssuer.newACMEClientWithAccount"].all
      (fun n => CM.Gen.C09.lockCallers.any (fun c => c.1 == n)) = true := by decide +kernel

/-- `releaseLock` unlocks under a context that ignores cancellation -/
theorem C09_tie_release_ignores_cancel :
    CM.Gen.C09.releaseUnlockCtx = "context.WithoutCancel(ctx)" := rfl

/-- `acquireLock` locks in storage before it records the lock; `releaseLock` unlocks in
storage before it forgets the lock -/
theorem C09_tie_helpers_shape :
    before "storage.Lock" "locksMu.Lock" (acts CM.Gen.C09.sk_acquireLock) = true ∧
    before "storage.Unlock" "mapdelete:locks" (acts CM.Gen.C09.sk_releaseLock) = true := by
  decide +kernel

end CM.Tie.C09
