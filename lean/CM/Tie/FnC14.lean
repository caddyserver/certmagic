/-
Function ties of C14 (DESIGN.md §12.7): the model's `current`, `shouldForce` and `fresh` are proved equal, for all
inputs, to the definitions the translator prints from `currentOCSP`, `certShouldBeForceRenewed` and `freshOCSP`
(CM/Generated/Fn.lean, regenerated from the source on every run).
-/
import CM.Generated.Fn
import CM.Proofs.OCSP
namespace CM.Tie.FnC14
open CM.Go

theorem time_Before_eq (a b : Int) : time_Before a b = !decide (b ≤ a) := by
  simp only [time_Before, ← decide_not, Int.not_le]

theorem time_After_eq (a b : Int) : time_After a b = !decide (a ≤ b) :=
  time_Before_eq b a

/-- An absent NextUpdate is Go's zero time, encoded 0, hence a present one must not be 0 (`hnu`); Status and
Certificate, the other two fields of the struct, are not read by `currentOCSP`. -/
theorem C14_tie_fn_currentOCSP (now : Int) (r : CM.OCSP.Resp)
    (hnu : ∀ nu, r.nextUpdate = some nu → nu ≠ 0) :
    CM.Gen.Fn.currentOCSP now ⟨r.thisUpdate, r.nextUpdate.getD 0, 0, none⟩ = CM.OCSP.current now r := by
  unfold CM.Gen.Fn.currentOCSP CM.OCSP.current
  -- into the model's `≤` tests first: then it does not matter how the source spells the combination
  simp only [time_Before_eq, time_After_eq, time_IsZero]
  cases hn : r.nextUpdate with
  | none => simp
  | some nu =>
    have hz : (nu == 0) = false := by simpa using hnu nu hn
    simp [hz]

def statusCode : CM.OCSP.Status → Int
  | .good => 0
  | .revoked => 1
  | .unknown => 2

/-- a model response as the translated struct -/
def encResp (r : CM.OCSP.Resp) : CM.Gen.Fn.ocsp_Response := ⟨r.thisUpdate, r.nextUpdate.getD 0, statusCode r.status, none⟩

/-- **the model's `shouldForce` IS the translated `certShouldBeForceRenewed`**: for every cache entry
(managed or not, any list of names, with or without a stapled response of any status). -/
theorem C14_tie_fn_certShouldBeForceRenewed (managed : Bool) (names : List Str) (o : Option CM.OCSP.Resp) :
    CM.Gen.Fn.certShouldBeForceRenewed ⟨names, managed, o.map encResp⟩
      = CM.OCSP.shouldForce managed (!names.isEmpty) o := by
  unfold CM.Gen.Fn.certShouldBeForceRenewed CM.OCSP.shouldForce
  have hlen : decide (Go.len names > (0 : Int)) = !names.isEmpty := by
    cases names with
    | nil => rfl
    | cons a t => simp [Go.len, Len.lenN]
  simp only [hlen]
  cases o with
  | none => simp
  | some r =>
    have hs : ((statusCode r.status == (1 : Int)) = decide (r.status = .revoked)) := by
      cases r.status <;> rfl
    simp [deref, encResp, hs]

/-- a model response as the translated struct, instants shifted by `K` (the distance from the zero time to
the model's epoch) -/
def encRespK (K : Int) (r : CM.OCSP.Resp) : CM.Gen.Fn.ocsp_Response :=
  { ThisUpdate := r.thisUpdate + K
    NextUpdate := (r.nextUpdate.map (· + K)).getD 0
    Status := statusCode r.status
    Certificate := r.responderNotAfter.map (fun ca => ⟨ca + K⟩) }

theorem tdiv_min : Int.tdiv minDuration 2 = -4611686018427387904 := by decide

theorem time_Before_add (x y K : Int) : time_Before (x + K) (y + K) = decide (x < y) := by
  simp only [time_Before, Int.add_lt_add_iff_right]

/-- the refresh test when the validity period ends at a real instant `x` within ±2^63 ns of ThisUpdate:
`Sub` is exact -/
theorem before_refresh (K now tu x : Int) (h1 : x - tu ≤ 9223372036854775807)
    (h2 : -9223372036854775808 ≤ x - tu) :
    time_Before (now + K) (time_Add (tu + K) (Int.tdiv (time_Sub (x + K) (tu + K)) 2))
      = decide (now < tu + Int.tdiv (x - tu) 2) := by
  have hsub : time_Sub (x + K) (tu + K) = x - tu := by
    unfold time_Sub maxDuration minDuration
    rw [Int.add_sub_add_right, if_neg (Int.not_lt.2 h1), if_neg (Int.not_lt.2 h2)]
  rw [hsub, time_Add, Int.add_right_comm, time_Before_add]

/-- … and when it ends at the zero time (NextUpdate absent): `Sub` saturates at the minimum duration -/
theorem before_refresh_zero (K now tu : Int) (h : tu + K > 9223372036854775808) :
    time_Before (now + K) (time_Add (tu + K) (Int.tdiv (time_Sub 0 (tu + K)) 2))
      = decide (now < tu - CM.OCSP.halfMinDuration) := by
  have hsub : time_Sub 0 (tu + K) = minDuration := by
    unfold time_Sub maxDuration minDuration
    rw [if_neg (by omega), if_pos (by omega)]
  rw [hsub, tdiv_min, time_Add, CM.OCSP.halfMinDuration, Int.add_right_comm, ← Int.sub_eq_add_neg,
    time_Before_add]

/-- **the model's `fresh` IS the translated `freshOCSP`** — including the case of an absent NextUpdate, where
Go's saturating `Sub` puts the refresh time 2^62 ns before ThisUpdate (the model's `halfMinDuration`):
for every shift `K` that makes the instants real ones (more than 2^63 ns after the zero time — true of
every date after the year 293), every `now`, and every response whose validity period and responder
certificate lie within ±2^63 ns (292 years) of ThisUpdate. -/
theorem C14_tie_fn_freshOCSP (K now : Int) (r : CM.OCSP.Resp)
    (htu : r.thisUpdate + K > 9223372036854775808)
    (hnu : ∀ nu, r.nextUpdate = some nu → nu + K > 0 ∧ nu - r.thisUpdate ≤ 9223372036854775807 ∧
      -9223372036854775808 ≤ nu - r.thisUpdate)
    (hca : ∀ ca, r.responderNotAfter = some ca → ca + K > 0 ∧ ca - r.thisUpdate ≤ 9223372036854775807 ∧
      -9223372036854775808 ≤ ca - r.thisUpdate) :
    CM.Gen.Fn.freshOCSP (now + K) (encRespK K r) = CM.OCSP.fresh now r := by
  unfold CM.Gen.Fn.freshOCSP CM.OCSP.fresh encRespK
  cases hn : r.nextUpdate with
  | none =>
    cases hc : r.responderNotAfter with
    | none => simpa using before_refresh_zero K now r.thisUpdate htu
    | some ca =>
      -- NextUpdate is the zero time, which no responder certificate's expiry precedes
      have hb : time_Before (ca + K) 0 = false := by
        have := (hca ca hc).1
        simp only [time_Before, decide_eq_false_iff_not]; omega
      simpa [deref, hb] using before_refresh_zero K now r.thisUpdate htu
  | some nu =>
    obtain ⟨_, hn1, hn2⟩ := hnu nu hn
    cases hc : r.responderNotAfter with
    | none => simpa using before_refresh K now r.thisUpdate nu hn1 hn2
    | some ca =>
      obtain ⟨_, hc1, hc2⟩ := hca ca hc
      by_cases hlt : ca < nu
      · simpa [deref, time_Before_add, hlt] using before_refresh K now r.thisUpdate ca hc1 hc2
      · simpa [deref, time_Before_add, hlt] using before_refresh K now r.thisUpdate nu hn1 hn2

/-- the definition translated from `currentOCSP` on this run accepts a response iff `now` lies inside its
validity period (a response without NextUpdate does not expire) -/
theorem C14_fn_currentOCSP_means (now : Int) (r : CM.OCSP.Resp)
    (hnu : ∀ nu, r.nextUpdate = some nu → nu ≠ 0) :
    CM.Gen.Fn.currentOCSP now ⟨r.thisUpdate, r.nextUpdate.getD 0, 0, none⟩ = true ↔
      r.thisUpdate ≤ now ∧ ∀ nu, r.nextUpdate = some nu → now ≤ nu := by
  rw [C14_tie_fn_currentOCSP now r hnu, CM.OCSP.current_iff]

end CM.Tie.FnC14
