import CM.Generated.C17
import CM.Model.RateLimit
/-!
Tie of the C17 model to `ratelimiter.go` / `acmeclient.go` / `acmeissuer.go` as they are
NOW: `CM/Generated/C17.lean` is rewritten from the source on every run. Each function the
model follows arrives as its ordered list of action tokens; the theorems below are the
structural facts the model relies on, stated as decidable predicates over those lists
(order of actions, what is under the mutex, which guard precedes what). `shape` forgets
the text of conditions, so renaming a variable or rewording a test does not break a
structural fact; the few guards whose *content* matters are tied separately.
-/
namespace CM.Tie.C17
open CM.RateLimit

def pre (p : String) (t : String) : Bool := p.toList.isPrefixOf t.toList
def suf (p : String) (t : String) : Bool := p.toList.isSuffixOf t.toList

/-- forget the text of conditions and local definitions -/
def shape (l : List String) : List String :=
  l.map (fun t => if pre "if(" t then "if{" else if pre "for(" t then "for{" else if pre "let:" t then "let" else t)

/-- the texts `shape` forgets -/
def guards (l : List String) : List String := l.filter (fun t => pre "if(" t || pre "for(" t || pre "let:" t)

/-- `pat` occurs in `l` in this order (not necessarily adjacent) -/
def subseq : List String → List String → Bool
  | [], _ => true
  | _ :: _, [] => false
  | a :: as, b :: bs => if a = b then subseq as bs else subseq (a :: as) bs

def cnt (l : List String) (t : String) : Nat := (l.filter (· = t)).length

/-- `loop`: stop check at the top; the disabled branch (`permit` without any wait, else panic)
comes first; then the slot under the cursor plus the window is read UNDER the mutex, the
mutex is released, a timer is armed for that instant, and `permit` is called only from the
timer's arm of the select, whose other arm is the stop channel. The loop never writes the
ring and never reads the clock into it. -/
theorem C17_tie_loop :
    subseq ["for{", "select{", "case:recv:stopped", "return", "case:default", "}",
            "if{", "if{", "call:permit", "continue", "}", "panic", "}",
            "lock", "read:ring[cursor]+window", "unlock", "time:until", "timer:new",
            "select{", "case:recv:timer", "call:permit", "case:recv:stopped", "return", "}", "}"]
      (shape CM.Gen.C17.loop) = true ∧
    cnt CM.Gen.C17.loop "call:permit" = 2 ∧ cnt CM.Gen.C17.loop "lock" = 1 ∧
    cnt CM.Gen.C17.loop "unlock" = 1 ∧ cnt CM.Gen.C17.loop "read:ring[cursor]+window" = 1 ∧
    (CM.Gen.C17.loop.filter (pre "write:")).length = 0 := by decide +kernel

/-- `permit`: the ring slot is written with `time.Now()` taken AFTER the ticket was sent
(hand-off, then record — the order `C17_bound` depends on), under the mutex, guarded by
`len(ring) > 0`, followed by `advance`; nothing is written and the clock is not read on any
other arm. -/
theorem C17_tie_permit_records_after_handoff :
    subseq ["for{", "select{", "case:send:started", "continue", "case:recv:stopped", "return",
            "case:send:ticket", "lock", "defer:unlock", "if{", "time:now", "write:ring[cursor]=now",
            "call:advance", "}", "return", "}", "}"] (shape CM.Gen.C17.permit) = true ∧
    cnt CM.Gen.C17.permit "time:now" = 1 ∧ (CM.Gen.C17.permit.filter (pre "write:")).length = 1 ∧
    cnt CM.Gen.C17.permit "case:send:ticket" = 1 ∧
    guards CM.Gen.C17.permit = ["for(){", "if(len(r.ring)>0){"] := by decide +kernel

/-- `Wait`: one select, two arms: context done ⇒ return (Canceled); ticket ⇒ return (nil).
`Allow`: one select: ticket ⇒ true; default ⇒ false. Neither touches ring, cursor, window. -/
theorem C17_tie_wait_allow :
    CM.Gen.C17.wait = ["select{", "case:recv:done", "return", "case:recv:ticket", "return", "}"] ∧
    CM.Gen.C17.allow = ["select{", "case:recv:ticket", "return", "case:default", "return", "}"] := ⟨rfl, rfl⟩

-- (`SetMaxEvents` and `advance` are tied whole: CM/Tie/FnC17.lean, advance_eq, C17_tie_fn_SetMaxEvents)

/-- `SetWindow`: under the mutex, panics iff `window != 0 && len(ring) == 0`, else assigns. -/
theorem C17_tie_setWindow :
    shape CM.Gen.C17.setWindow = ["lock", "defer:unlock", "if{", "panic", "}", "write:window=arg"] ∧
    guards CM.Gen.C17.setWindow = ["if(arg0!=0&&len(r.ring)==0){"] := by decide +kernel

/-- `NewRateLimiter` refuses (panics on) negative limits and `maxEvents == 0 && window != 0`
— the model's `Init` —, starts `loop` and waits for it; `Stop` closes the stop channel. -/
theorem C17_tie_new_stop :
    guards CM.Gen.C17.newRateLimiter = ["if(arg0<0){", "if(arg0==0&&arg1!=0){"] ∧
    subseq ["if{", "panic", "}", "if{", "panic", "}", "recv:started", "return"] (shape CM.Gen.C17.newRateLimiter) = true ∧
    (CM.Gen.C17.newRateLimiter.filter (pre "go:")).length = 1 ∧
    CM.Gen.C17.stop = ["close:stopped"] := by decide +kernel

/-- the issuer's default limit: 10 events per 10 s — a valid configuration with a real limit -/
theorem C17_tie_defaults :
    CM.Gen.C17.rateLimitEvents = 10 ∧ CM.Gen.C17.rateLimitEventsWindow = 10 * 1000000000 ∧
    ¬ (CM.Gen.C17.rateLimitEvents.toNat = 0 ∧ CM.Gen.C17.rateLimitEventsWindow.toNat ≠ 0) := ⟨rfl, rfl, by decide +kernel⟩

/-- `C17_throttle_key` of the design: the limiter a first attempt waits on is found under the
key "directory URL , account e-mail" and created with the two package defaults; `doIssue`
calls `throttle` exactly once, under the guard `!useTestCA` where `useTestCA := attempts > 0`
— so first attempts are throttled per CA and account, and test-CA attempts bypass it. -/
theorem C17_tie_throttle_key :
    CM.Gen.C17.throttleKeyParts.length = 3 ∧
    (CM.Gen.C17.throttleKeyParts.head?.map (suf ".Directory")) = some true ∧
    CM.Gen.C17.throttleKeyParts[1]? = some "\",\"" ∧
    CM.Gen.C17.throttleKeyParts[2]? = some "email" ∧
    suf ".getEmail()" CM.Gen.C17.throttleEmailFrom = true ∧
    CM.Gen.C17.throttleNewArgs = ["RateLimitEvents", "RateLimitEventsWindow"] ∧
    CM.Gen.C17.doIssueUseTestCA = "attempts > 0" ∧
    CM.Gen.C17.doIssueThrottleGuard = "!useTestCA" ∧
    CM.Gen.C17.doIssueThrottleCalls = 1 :=
  ⟨rfl, by decide +kernel, rfl, rfl, by decide +kernel, rfl, rfl, rfl, rfl⟩

end CM.Tie.C17
