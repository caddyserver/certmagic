import CM.Generated.C20
import CM.Model.Account
/-!
Tie of the C20 model to account.go / acmeclient.go / acmeissuer.go / storage.go /
certificates.go: the facts below are re-extracted from the working tree on every run
(`CM/Generated/C20.lean`, written by go/extract/c20.go). Action lists are abstract tokens
(`loadOrRet`, `acqOrRet`, `deferRel`, `registerOrRet`, `saveOrRet`, `delete:reg…`, `ret`,
brackets `[new`/`[otherAccount` … `]` for the guarded blocks); the theorems state named
structural facts about them — the ones the transition system of CM/Model/Account relies on.
-/
namespace CM.Tie.C20
open CM.Account

def isOpen (t : String) : Bool := t == "[new" || t == "[otherAccount" || t == "[dne"

/-- the actions proper (returns and brackets dropped) -/
def acts (l : List String) : List String := l.filter (fun t => !(t == "ret" || t == "]" || isOpen t))

/-- every token with the stack of guards it sits under -/
def withCtx : List String → List String → List (String × List String)
  | [], _ => []
  | t :: r, st =>
    if isOpen t then withCtx r (t :: st)
    else if t == "]" then withCtx r st.tail
    else (t, st) :: withCtx r st

/-- every acquire returns on failure and is followed at once by the deferred release -/
def deferAfterAcquire : List String → Bool
  | [] => true
  | t :: r =>
    if t == "acq" then false
    else if t == "acqOrRet" then (r.head? == some "deferRel") && deferAfterAcquire r
    else deferAfterAcquire r

def ctxOf (l : List String) (t : String) : List (List String) :=
  ((withCtx l []).filter (fun x => x.1 == t)).map (·.2)

/-- the lock is `register_acme_account[_<contact>]` -/
theorem C20_tie_lock_name : CM.Gen.C20.lockNameLits = [lockNamePrefix, "_"] := rfl

/-- the two storage keys: `<user|registration>.json` and `<user|private>.key` -/
theorem C20_tie_key_suffixes :
    CM.Gen.C20.regKeyLits = [regFile.1, regFile.2] ∧ CM.Gen.C20.privKeyLits = [keyFile.1, keyFile.2] := ⟨rfl, rfl⟩

/-- `newACMEClientWithAccount`: load → lock → (deferred release) → reload → register → save,
each step returning on failure, and nothing else that touches the account -/
theorem C20_tie_protocol_order :
    acts CM.Gen.C20.newClientActions =
      ["loadOrRet", "acqOrRet", "deferRel", "loadOrRet", "registerOrRet", "saveOrRet"] := by decide +kernel

/-- the release is deferred right after every successful acquire (both functions) -/
theorem C20_tie_defer_after_acquire :
    deferAfterAcquire CM.Gen.C20.newClientActions = true ∧ deferAfterAcquire CM.Gen.C20.deleteActions = true := by
  decide +kernel

/-- the lock is taken only for a new account, and registration and save happen only if the
account is STILL new after the reload under the lock (check – lock – recheck – act) -/
theorem C20_tie_recheck_guards_register :
    ctxOf CM.Gen.C20.newClientActions "acqOrRet" = [["[new"]] ∧
    ctxOf CM.Gen.C20.newClientActions "registerOrRet" = [["[new", "[new"]] ∧
    ctxOf CM.Gen.C20.newClientActions "saveOrRet" = [["[new", "[new"]] ∧
    ctxOf CM.Gen.C20.newClientActions "loadOrRet" = [[], ["[new"]] := by decide +kernel

/-- `loadAccount` reads the registration, then the key; `saveAccount` writes them in that
order in one `storeTx` -/
theorem C20_tie_load_save_order :
    acts CM.Gen.C20.loadActions = ["read:reg", "read:key"] ∧ CM.Gen.C20.saveKeys = ["reg", "key"] ∧
    CM.Gen.C20.saveUsesStoreTx = true := ⟨by decide +kernel, rfl, rfl⟩

/-- `storeTx` reads the old values first, stores, and on failure stores back or deletes -/
theorem C20_tie_storeTx : CM.Gen.C20.storeTxCalls = ["load", "store", "store", "delete"] := rfl

/-- `deleteAccountLocally`: lock → load → leave another account alone → delete the
registration (return on failure) → delete the key -/
theorem C20_tie_recreate_delete :
    acts CM.Gen.C20.deleteActions = ["acqOrRet", "deferRel", "load", "delete:regOrRet", "delete:key"] ∧
    ctxOf CM.Gen.C20.deleteActions "ret" = [["[otherAccount"], [], []] ∧
    (CM.Gen.C20.deleteActions.takeWhile (· != "delete:regOrRet")).contains "[otherAccount" = true := by decide +kernel

/-- `doIssue` resets the account of the directory in use, only on account-does-not-exist,
then constructs a client again and gives its account to the retried order -/
theorem C20_tie_recreate_branch :
    CM.Gen.C20.dneDeleteUsesClientDirectory = true ∧ CM.Gen.C20.dneReconstructs = true ∧
    CM.Gen.C20.dneRefreshesOrderAccount = true := ⟨rfl, rfl, rfl⟩

/-- the e-mail discovery of `PreCheck` only LOADS the most recent account: it never makes one
up (a made-up account for the folder name `default` has the contact `mailto:default`, hence
another lock name over the same two files) -/
theorem C20_tie_email_discovery_only_loads : CM.Gen.C20.emailDiscoveryCalls = ["loadAccount"] := rfl

/-- the rule: reject iff scheme ≠ "https" ∧ ¬ SubjectIsInternal(host), after "https://" was
put in front of a string without "://" -/
theorem C20_tie_https_rule :
    CM.Gen.C20.ruleSeparator = "://" ∧ CM.Gen.C20.rulePrefix.toList = httpsPrefix ∧
    CM.Gen.C20.ruleOp = "&&" ∧ CM.Gen.C20.ruleSchemeCmp = "!=" ∧ CM.Gen.C20.ruleSchemeLit.toList = httpsL ∧
    CM.Gen.C20.ruleInternalNegated = true ∧ CM.Gen.C20.ruleInternalArg = "u.Host" ∧
    CM.Gen.C20.ruleRejects = true := ⟨rfl, rfl, rfl, rfl, rfl, rfl, rfl, rfl⟩

/-- every value that becomes a client's directory went through the rule (CA and test CA) -/
theorem C20_tie_directory_checked :
    CM.Gen.C20.directorySources.all (·.2) = true ∧ CM.Gen.C20.directorySources.length = 2 := ⟨rfl, rfl⟩

/-- the tables of `SubjectIsInternal` / `isInternalIP` are the model's -/
theorem C20_tie_internal_tables :
    CM.Gen.C20.privateNetworks = privateNetworks.map (·.1) ∧
    CM.Gen.C20.internalSuffixes = internalSuffixes ∧ CM.Gen.C20.internalExact = "localhost" := ⟨rfl, rfl, rfl⟩

end CM.Tie.C20
