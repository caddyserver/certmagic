import CM.Generated.Guard
import CM.Lib.Guard
/-!
Tie (C02, *gate domination*, verified checker). In `handshake.go`, passing the on-demand
policy gate — the fused idiom `if err := cfg.checkIfCertShouldBeObtained(..); err != nil {
return … }` — plays the role of taking a lock that is never released; every call that
issues, renews or loads a certificate (`ObtainCert*`, `RenewCert*`, `forceRenew`,
`loadManagedCertificate`, `CacheManagedCertificate`, `reloadManagedCertificate`) is an
"access". The skeletons of EVERY function of `handshake.go` that contains such a call
(directly or through a helper) are regenerated on every run; unexported functions that never
gate themselves (`loadCertFromStorage`, `obtainOnDemandCertificate`) are helpers that expect
the gate to have been passed by their caller, and calls to them are accesses.

By `CM.Guard.entryOK_sound` / `helperOK_sound`: on every path through every such function —
every branch, loop count, closure, goroutine started, return or panic at any call — no
issuing or loading call is reached without a successful gate before it in the same
function or goroutine. (Names and "at that moment" are the model's and the harness's
business: `CM/Props/C02.lean`, the effect-log specification.)
-/
namespace CM.Tie.GuardGate
open CM.Guard CM.Skel

def P : Names := { lock := (· == "lock"), unlock := (· == "unlock"), access := (· == "access") }

theorem C02_tie_gate_dominates : ∀ f ∈ CM.Gen.Guard.gate_funcs, entryOK P f.2 = true := by decide +kernel

theorem C02_tie_gate_dominates_sound (f : String × Sk) (hf : f ∈ CM.Gen.Guard.gate_funcs)
    {o : Out} {m : M} {v : Bool} (he : Exec P f.2 .free o m v) : v = false :=
  entryOK_sound (C02_tie_gate_dominates f hf) he

/-- the ungated helpers reach their issuing / loading calls only with the gate passed by
the caller, and every call of them is checked as an access above -/
theorem C02_tie_gate_helpers : ∀ f ∈ CM.Gen.Guard.gate_helpers, helperOK P f.2 = true := by decide +kernel

/-- the functions the handshake model follows are among those checked -/
theorem C02_tie_gate_covers :
    ["Config.getCertDuringHandshake", "Config.handshakeMaintenance", "Config.renewDynamicCertificate",
     "Config.loadCertFromStorage", "Config.obtainOnDemandCertificate"].all
      (fun n => (CM.Gen.Guard.gate_funcs ++ CM.Gen.Guard.gate_helpers).any (fun f => f.1 == n)) = true := by decide +kernel

end CM.Tie.GuardGate
