-- Root of the `CM` library: everything except the regenerated modules (CM/Generated, CM/Tie).
-- Regenerated by tools/mkroot.py.
import CM.Lib.GoLite
import CM.Lib.Guard
import CM.Lib.KV
import CM.Lib.Prog
import CM.Lib.SingleExit
import CM.Lib.Skel
import CM.Lib.SkelHS
import CM.Lib.Upd
import CM.Lib.Wire
import CM.Model.Account
import CM.Model.Async
import CM.Model.AtomicFile
import CM.Model.Bundle
import CM.Model.Cache
import CM.Model.Challenge
import CM.Model.Clean
import CM.Model.FileLock
import CM.Model.FileLockSim
import CM.Model.FileTree
import CM.Model.Handshake
import CM.Model.Issue
import CM.Model.Lookup
import CM.Model.Maintain
import CM.Model.OCSP
import CM.Model.RateLimit
import CM.Model.Renew
import CM.Model.Safe
import CM.Model.SingleFlight
import CM.Model.Solvers
import CM.Proofs.Account
import CM.Proofs.AccountStep
import CM.Proofs.AccountW
import CM.Proofs.Async
import CM.Proofs.AtomicFile
import CM.Proofs.Bundle
import CM.Proofs.Cache
import CM.Proofs.Challenge
import CM.Proofs.Clean
import CM.Proofs.FileLock
import CM.Proofs.FileLockSolo
import CM.Proofs.FileLockStep
import CM.Proofs.FileTree
import CM.Proofs.Issue
import CM.Proofs.IssueTerm
import CM.Proofs.Lookup
import CM.Proofs.Maintain
import CM.Proofs.OCSP
import CM.Proofs.RateLimit
import CM.Proofs.Renew
import CM.Proofs.Safe
import CM.Proofs.SingleFlight
import CM.Proofs.Solvers
import CM.Props.C01
import CM.Props.C02
import CM.Props.C03
import CM.Props.C04
import CM.Props.C05
import CM.Props.C06
import CM.Props.C07
import CM.Props.C08
import CM.Props.C09
import CM.Props.C10
import CM.Props.C11
import CM.Props.C12
import CM.Props.C13
import CM.Props.C14
import CM.Props.C15
import CM.Props.C16
import CM.Props.C17
import CM.Props.C18
import CM.Props.C19
import CM.Props.C20
import CM.Drv.C01
import CM.Drv.C02
import CM.Drv.C03
import CM.Drv.C04
import CM.Drv.C05
import CM.Drv.C06
import CM.Drv.C07
import CM.Drv.C08
import CM.Drv.C09
import CM.Drv.C10
import CM.Drv.C11
import CM.Drv.C12
import CM.Drv.C13
import CM.Drv.C14
import CM.Drv.C15
import CM.Drv.C16
import CM.Drv.C17
import CM.Drv.C18
import CM.Drv.C19
import CM.Drv.C20
